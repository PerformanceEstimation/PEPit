import Lean.Meta.Tactic.Simp.RegisterCommand

/-- Rewrite rules that expand a quadratic expression in sample points into a linear combination of
oriented inner products `⟪pv a, pv b⟫`, function values and `1` with explicit real coefficients. -/
register_simp_attr gram_expand
