import PepitModel.AFun
import PepitVerif.Math.WellFormed

/-!
# Semantics of the value-level function machine (towards property C07)

Scalar denotations of stored dictionaries, what `record` / `setDecomp` do to the record of each function,
and the order `Extends` in which every operation of the machine moves the world.
-/

namespace Pepit

/-- scalar denotations (equality under every scalar valuation is equality of the formal
linear combinations, hence of every vector interpretation) -/
noncomputable def gden (val : Nat → ℝ) (d : PDict) : ℝ := Dict.denM val d
noncomputable def vden (φ : EKey → ℝ) (d : EDict) : ℝ := Dict.denM φ d

theorem gden_prune (val : Nat → ℝ) (d : PDict) : gden val (Dict.prune d) = gden val d := Dict.denM_prune val d
theorem vden_prune (φ : EKey → ℝ) (d : EDict) : vden φ (Dict.prune d) = vden φ d := Dict.denM_prune φ d

theorem gden_add (val : Nat → ℝ) (a b : PDict) (hb : (Dict.keys b).Nodup) :
    gden val (PDict.add a b) = gden val a + gden val b := Dict.denM_add val a b hb
theorem vden_add (φ : EKey → ℝ) (a b : EDict) (hb : (Dict.keys b).Nodup) :
    vden φ (EDict.add a b) = vden φ a + vden φ b := Dict.denM_add φ a b hb

theorem gden_sub (val : Nat → ℝ) (a b : PDict) (hb : (Dict.keys b).Nodup) :
    gden val (PDict.sub a b) = gden val a - gden val b := Dict.denM_sub val a b hb
theorem vden_sub (φ : EKey → ℝ) (a b : EDict) (hb : (Dict.keys b).Nodup) :
    vden φ (EDict.sub a b) = vden φ a - vden φ b := Dict.denM_sub φ a b hb

theorem gden_smul (val : Nat → ℝ) (c : Coef) (a : PDict) : gden val (PDict.smul c a) = ((c : ℚ) : ℝ) * gden val a :=
  Dict.denM_scale val a c
theorem vden_smul (φ : EKey → ℝ) (c : Coef) (a : EDict) : vden φ (EDict.smul c a) = ((c : ℚ) : ℝ) * vden φ a :=
  Dict.denM_scale φ a c

theorem gden_div (val : Nat → ℝ) (a : PDict) (c : Coef) (hc : c ≠ 0) :
    ((c : ℚ) : ℝ) * gden val (PDict.div a c) = gden val a := Dict.denM_scale_one_div val a hc
theorem vden_div (φ : EKey → ℝ) (a : EDict) (c : Coef) (hc : c ≠ 0) :
    ((c : ℚ) : ℝ) * vden φ (EDict.div a c) = vden φ a := Dict.denM_scale_one_div φ a hc

theorem getF_modify (w : AW) (f g : Nat) (u : AFun → AFun) :
    ({ w with funs := w.funs.modify f u } : AW).getF g =
      if g = f ∧ f < w.funs.length then u (w.getF g) else w.getF g := by
  unfold AW.getF
  simp only [List.getD_eq_getElem?_getD, List.getElem?_modify]
  by_cases hgf : g = f
  · subst hgf
    by_cases hlt : g < w.funs.length <;> simp [hlt]
  · simp [hgf, Ne.symm hgf]

theorem getF_setPts (w : AW) (f g : Nat) (pts : List ATriple) :
    (w.setPts f pts).getF g =
      if g = f ∧ f < w.funs.length then { w.getF g with pts := pts } else w.getF g := getF_modify w f g _

theorem getF_setDecomp (w : AW) (f g : Nat) (d : Dict Nat) :
    (w.setDecomp f d).getF g =
      if g = f ∧ f < w.funs.length then { w.getF g with decomp := d } else w.getF g := getF_modify w f g _

theorem getF_append_last (w : AW) (nf : AFun) : ({ w with funs := w.funs ++ [nf] } : AW).getF w.funs.length = nf := by
  unfold AW.getF
  simp

@[simp] theorem length_record (w : AW) (f : Nat) (t : ATriple) : (w.record f t).funs.length = w.funs.length := by
  simp [AW.record, AW.setPts]

@[simp] theorem length_setDecomp (w : AW) (f : Nat) (d : Dict Nat) :
    (w.setDecomp f d).funs.length = w.funs.length := by
  simp [AW.setDecomp]

theorem pts_record (w : AW) (f g : Nat) (t : ATriple) :
    ((w.record f t).getF g).pts =
      if g = f ∧ f < w.funs.length then
        (w.getF g).pts ++ [⟨Dict.prune t.x, Dict.prune t.g, Dict.prune t.v⟩]
      else (w.getF g).pts := by
  unfold AW.record; rw [getF_setPts]; split
  · next h => rw [h.1]
  · rfl

theorem pts_record_of_ne (w : AW) {f g : Nat} (t : ATriple) (h : g ≠ f) :
    ((w.record f t).getF g).pts = (w.getF g).pts := by
  rw [pts_record, if_neg (fun hc => h hc.1)]

theorem pts_record_self (w : AW) (f : Nat) (t : ATriple) (hf : f < w.funs.length) :
    ((w.record f t).getF f).pts = (w.getF f).pts ++ [⟨Dict.prune t.x, Dict.prune t.g, Dict.prune t.v⟩] := by
  rw [pts_record, if_pos ⟨rfl, hf⟩]

@[simp] theorem isLeaf_record (w : AW) (f g : Nat) (t : ATriple) :
    ((w.record f t).getF g).isLeaf = (w.getF g).isLeaf := by
  unfold AW.record; rw [getF_setPts]; split <;> rfl
@[simp] theorem reuse_record (w : AW) (f g : Nat) (t : ATriple) :
    ((w.record f t).getF g).reuse = (w.getF g).reuse := by
  unfold AW.record; rw [getF_setPts]; split <;> rfl
@[simp] theorem decomp_record (w : AW) (f g : Nat) (t : ATriple) :
    ((w.record f t).getF g).decomp = (w.getF g).decomp := by
  unfold AW.record; rw [getF_setPts]; split <;> rfl

@[simp] theorem pts_setDecomp (w : AW) (f g : Nat) (d : Dict Nat) :
    ((w.setDecomp f d).getF g).pts = (w.getF g).pts := by
  rw [getF_setDecomp]; split <;> rfl
@[simp] theorem isLeaf_setDecomp (w : AW) (f g : Nat) (d : Dict Nat) :
    ((w.setDecomp f d).getF g).isLeaf = (w.getF g).isLeaf := by
  rw [getF_setDecomp]; split <;> rfl
@[simp] theorem reuse_setDecomp (w : AW) (f g : Nat) (d : Dict Nat) :
    ((w.setDecomp f d).getF g).reuse = (w.getF g).reuse := by
  rw [getF_setDecomp]; split <;> rfl
theorem decomp_setDecomp (w : AW) (f g : Nat) (d : Dict Nat) :
    ((w.setDecomp f d).getF g).decomp = if g = f ∧ f < w.funs.length then d else (w.getF g).decomp := by
  rw [getF_setDecomp]; split <;> rfl

theorem prune_decomp_setDecomp_prune (w : AW) (f : Nat) (hf : f < w.funs.length) :
    Dict.prune ((w.setDecomp f (Dict.prune (w.getF f).decomp)).getF f).decomp
      = ((w.setDecomp f (Dict.prune (w.getF f).decomp)).getF f).decomp := by
  rw [decomp_setDecomp, if_pos ⟨rfl, hf⟩, Dict.prune_prune]

theorem mem_record_self (w : AW) (f : Nat) (t : ATriple) (hf : f < w.funs.length) :
    (⟨Dict.prune t.x, Dict.prune t.g, Dict.prune t.v⟩ : ATriple) ∈ ((w.record f t).getF f).pts := by
  simp [pts_record_self w f t hf]

theorem mem_or_eq_of_mem_record {w : AW} {f g : Nat} {t t' : ATriple} (h : t' ∈ ((w.record f t).getF g).pts) :
    t' ∈ (w.getF g).pts ∨ t' = ⟨Dict.prune t.x, Dict.prune t.g, Dict.prune t.v⟩ := by
  rw [pts_record] at h
  split at h
  · simpa using h
  · exact Or.inl h

/-- `w'` extends `w`: same number of functions, every recorded triplet is still there, flags
unchanged, decompositions unchanged up to pruning (`add_point` prunes the composite's own
decomposition in place) -/
structure Extends (w w' : AW) : Prop where
  len : w'.funs.length = w.funs.length
  pts : ∀ f t, t ∈ (w.getF f).pts → t ∈ (w'.getF f).pts
  flags : ∀ f, (w'.getF f).isLeaf = (w.getF f).isLeaf ∧ (w'.getF f).reuse = (w.getF f).reuse
            ∧ Dict.prune (w'.getF f).decomp = Dict.prune (w.getF f).decomp

theorem Extends.refl (w : AW) : Extends w w := ⟨rfl, fun _ _ h => h, fun _ => ⟨rfl, rfl, rfl⟩⟩

theorem Extends.trans {a b c : AW} (h1 : Extends a b) (h2 : Extends b c) : Extends a c :=
  ⟨h2.len.trans h1.len, fun f t h => h2.pts f t (h1.pts f t h),
   fun f => ⟨(h2.flags f).1.trans (h1.flags f).1, (h2.flags f).2.1.trans (h1.flags f).2.1,
             (h2.flags f).2.2.trans (h1.flags f).2.2⟩⟩

theorem extends_counters (w : AW) (a b : Nat) : Extends w { w with nP := a, nE := b } :=
  ⟨rfl, fun _ _ h => h, fun _ => ⟨rfl, rfl, rfl⟩⟩

theorem extends_record (w : AW) (f : Nat) (t : ATriple) : Extends w (w.record f t) := by
  refine ⟨length_record w f t, fun g t' ht' => ?_,
    fun g => ⟨isLeaf_record w f g t, reuse_record w f g t, by rw [decomp_record]⟩⟩
  rw [pts_record]; split
  · exact List.mem_append_left _ ht'
  · exact ht'

theorem extends_setDecomp_prune (w : AW) (f : Nat) :
    Extends w (w.setDecomp f (Dict.prune (w.getF f).decomp)) := by
  refine ⟨length_setDecomp w f _, fun g t ht => pts_setDecomp w f g _ ▸ ht,
    fun g => ⟨isLeaf_setDecomp w f g _, reuse_setDecomp w f g _, ?_⟩⟩
  rw [decomp_setDecomp]; split
  · next h => rw [h.1, Dict.prune_prune]
  · rfl

end Pepit
