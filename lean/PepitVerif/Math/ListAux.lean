/-!
# General facts about lists that the property files share (no Mathlib)
-/

namespace List

theorem filterMap_ite_none {α β : Type} (p : α → Bool) (f : α → β) (l : List α) :
    l.filterMap (fun a => if p a then none else some (f a)) = (l.filter (fun a => !p a)).map f := by
  rw [← List.filterMap_eq_map, List.filterMap_filter]
  congr; funext a; cases p a <;> rfl

theorem flatMap_filter_of_nil {α β : Type} (p : α → Bool) (g : α → List β) (hg : ∀ a, p a = false → g a = [])
    (l : List α) : (l.filter p).flatMap g = l.flatMap g := by
  induction l with
  | nil => rfl
  | cons a t ih => cases h : p a <;> simp [h, ih, hg a]

theorem lookup_filterMap_graph {α β : Type} [DecidableEq α] (g : α → Option β) (h : α) (l : List α) :
    (l.filterMap fun a => (g a).map fun x => (a, x)).lookup h = if h ∈ l then g h else none := by
  induction l with
  | nil => rfl
  | cons a t ih =>
    rw [List.filterMap_cons]
    by_cases e : h = a
    · subst e
      cases hg : g h <;> simp [ih, hg]
    · have hb : (h == a) = false := beq_false_of_ne e
      cases g a <;> simp [ih, e, List.lookup_cons, hb]

theorem mapM_error_mem {α β ε : Type} {f : α → Except ε β} {err : ε} {l : List α}
    (h : l.mapM f = .error err) : ∃ a ∈ l, f a = .error err := by
  induction l with
  | nil => cases h
  | cons hd tl ih =>
    rw [List.mapM_cons] at h
    cases hf : f hd with
    | error e' =>
      rw [hf] at h
      cases h
      exact ⟨hd, List.mem_cons_self, hf⟩
    | ok b =>
      rw [hf] at h
      cases htl : tl.mapM f with
      | error e' =>
        rw [htl] at h
        cases h
        obtain ⟨a, ha, hfa⟩ := ih htl
        exact ⟨a, List.mem_cons_of_mem _ ha, hfa⟩
      | ok bs => rw [htl] at h; cases h

/-- `mapM` in `Except` fails as soon as one element fails — with `err`, when no element can fail otherwise -/
theorem mapM_eq_error {α β ε : Type} {f : α → Except ε β} {err : ε} (hf : ∀ a e', f a = .error e' → e' = err)
    {l : List α} {a : α} (ha : a ∈ l) (hfa : f a = .error err) : l.mapM f = .error err := by
  induction l with
  | nil => cases ha
  | cons hd tl ih =>
    rw [List.mapM_cons]
    cases hhd : f hd with
    | error e' => rw [hf hd e' hhd]; rfl
    | ok b =>
      rw [ih ((List.mem_cons.mp ha).resolve_left fun e => by rw [e, hhd] at hfa; cases hfa)]
      rfl

end List
