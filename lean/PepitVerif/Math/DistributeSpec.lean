import PepitVerif.Math.AFunSpec

/-!
# The remainder loop of `add_point` (`distribute`) establishes sum consistency (property C07, core lemma)
-/

namespace Pepit

/-- witnesses for the terms: each term owns a triplet at `x`; the weighted sums of their
gradients and values are `g` and `v` under every valuation -/
def SumWitness (w : AW) (terms : List (Nat × Coef)) (x g : PDict) (v : EDict) : Prop :=
  ∃ ws : List ATriple,
    List.Forall₂ (fun (tw : Nat × Coef) (t : ATriple) => t ∈ (w.getF tw.1).pts ∧ AtPoint t x) terms ws ∧
    (∀ val, (List.zipWith (fun (tw : Nat × Coef) (t : ATriple) => ((tw.2 : ℚ) : ℝ) * gden val t.g) terms ws).sum = gden val g) ∧
    (∀ φ, (List.zipWith (fun (tw : Nat × Coef) (t : ATriple) => ((tw.2 : ℚ) : ℝ) * vden φ t.v) terms ws).sum = vden φ v)

theorem forall₂_mono {w w' : AW} (h : Extends w w') (x : PDict) (terms : List (Nat × Coef)) (ws : List ATriple)
    (hf : List.Forall₂ (fun (tw : Nat × Coef) (t : ATriple) => t ∈ (w.getF tw.1).pts ∧ AtPoint t x) terms ws) :
    List.Forall₂ (fun (tw : Nat × Coef) (t : ATriple) => t ∈ (w'.getF tw.1).pts ∧ AtPoint t x) terms ws :=
  hf.imp fun _ _ hd => ⟨h.pts _ _ hd.1, hd.2⟩

/-- the remainder loop calls the oracle of every visited term but the last and records a triplet at `x` on the last one:
what both keep, the loop keeps -/
theorem distribute_invariant (x : PDict) {P : AW → Prop} :
    ∀ (terms : List (Nat × Coef)) (w : AW) (gl : PDict) (fl : EDict),
      (∀ w, ∀ tw ∈ terms, P w → P (oracleLeafA w tw.1 x).1) →
      (∀ w g v, ∀ tw ∈ terms, P w → P (w.record tw.1 ⟨x, g, v⟩)) → P w → P (distribute x w terms gl fl)
  | [], _, _, _, _, _, h => h
  | [tw], w, _, _, _, hr, h => hr w _ _ tw List.mem_cons_self h
  | tw :: hd2 :: rest, w, _, _, ho, hr, h =>
    distribute_invariant x (hd2 :: rest) _ _ _ (fun w tw' h' => ho w tw' (List.mem_cons_of_mem _ h'))
      (fun w g v tw' h' => hr w g v tw' (List.mem_cons_of_mem _ h')) (ho w tw List.mem_cons_self h)

theorem extends_distribute (x : PDict) (terms : List (Nat × Coef)) (w : AW) (gl : PDict) (fl : EDict) :
    Extends w (distribute x w terms gl fl) :=
  distribute_invariant x (P := Extends w) terms w gl fl (fun w' tw _ h => h.trans (extends_oracleLeafA w' tw.1 x))
    (fun w' _ _ tw _ h => h.trans (extends_record w' tw.1 _)) (Extends.refl w)

theorem pts_distribute_of_not_mem (x : PDict) (g : Nat) (terms : List (Nat × Coef)) (w : AW) (gl : PDict) (fl : EDict)
    (hg : g ∉ terms.map (·.1)) : ((distribute x w terms gl fl).getF g).pts = (w.getF g).pts :=
  have hne : ∀ tw ∈ terms, g ≠ tw.1 := fun _ htw e => hg (e ▸ List.mem_map_of_mem htw)
  distribute_invariant x (P := fun w' => (w'.getF g).pts = (w.getF g).pts) terms w gl fl
    (fun w' tw htw h => (pts_oracleLeafA_of_ne w' x (hne tw htw)).trans h)
    (fun w' _ _ tw htw h => (pts_record_of_ne w' _ (hne tw htw)).trans h) rfl

/-- **the remainder loop**: for every nonempty visit list of existing leaf functions with
nonzero weights, every well-formed world, point and running remainder `(gl, fl)`: afterwards the
world has only grown, is still well formed, and every visited term owns a triplet at `x` such
that the weighted sums of the terms' gradients and values are exactly `gl` and `fl`. -/
theorem distribute_spec (x : PDict) (hx : (Dict.keys x).Nodup) :
    ∀ (terms : List (Nat × Coef)) (w : AW) (gl : PDict) (fl : EDict),
      terms ≠ [] → (∀ tw ∈ terms, tw.1 < w.funs.length ∧ tw.2 ≠ 0) → WfW w →
      (Dict.keys gl).Nodup → (Dict.keys fl).Nodup →
      Extends w (distribute x w terms gl fl) ∧ WfW (distribute x w terms gl fl) ∧
      SumWitness (distribute x w terms gl fl) terms x gl fl := by
  intro terms
  induction terms with
  | nil => intro w gl fl h; exact absurd rfl h
  | cons hd rest ih =>
    obtain ⟨fn, wt⟩ := hd
    intro w gl fl _ hterms hw hgl hfl
    obtain ⟨hfn, hwt⟩ := hterms (fn, wt) List.mem_cons_self
    cases rest with
    | nil =>
      -- the last term receives the remainder divided by its weight
      simp only [distribute]
      refine ⟨extends_record w fn _, wfW_record w fn _ hw hx (PDict.wf_smul _ gl hgl) (EDict.wf_smul _ fl hfl),
        [_], .cons ⟨mem_record_self w fn _ hfn, Or.inr rfl⟩ .nil, fun val => ?_, fun φ => ?_⟩
      · simpa [gden_prune] using gden_div val gl wt hwt
      · simpa [vden_prune] using vden_div φ fl wt hwt
    | cons hd2 rest2 =>
      -- this term goes through its own oracle; the remainder is updated
      simp only [distribute]
      obtain ⟨hext, hwf, hgn, hvn, t, htm, htat, htg, htv⟩ := oracleLeafA_spec w fn x hfn hw hx
      obtain ⟨hext2, hwf2, ws, hfa, hsg, hsv⟩ := ih _ _ _ (List.cons_ne_nil _ _)
        (fun tw htw => hext.len ▸ hterms tw (List.mem_cons_of_mem _ htw)) hwf
        (PDict.wf_sub _ (PDict.smul wt (oracleLeafA w fn x).2.1) hgl)
        (EDict.wf_sub _ (EDict.smul wt (oracleLeafA w fn x).2.2) hfl)
      refine ⟨hext.trans hext2, hwf2, t :: ws, .cons ⟨hext2.pts _ _ htm, htat⟩ hfa, fun val => ?_, fun φ => ?_⟩
      · rw [List.zipWith_cons_cons, List.sum_cons, hsg val, gden_sub val gl _ (PDict.wf_smul wt _ hgn), gden_smul,
          htg val]
        ring
      · rw [List.zipWith_cons_cons, List.sum_cons, hsv φ, vden_sub φ fl _ (EDict.wf_smul wt _ hvn), vden_smul,
          htv φ]
        ring

end Pepit

#print axioms Pepit.distribute_spec
