import PepitVerif.Math.AFunSem

/-!
# One-step specifications of the function machine (property C07)
-/

namespace Pepit

/-- every stored dictionary has duplicate-free keys -/
def WfW (w : AW) : Prop :=
  ∀ f t, t ∈ (w.getF f).pts → (Dict.keys t.x).Nodup ∧ (Dict.keys t.g).Nodup ∧ (Dict.keys t.v).Nodup

/-- the triplet is recorded at the point `x`: equal as a dictionary, or (the triplet just recorded) literally `prune x`,
which spares a proof that `Dict.eqv` is reflexive -/
def AtPoint (t : ATriple) (x : PDict) : Prop := Dict.eqv t.x (Dict.prune x) = true ∨ t.x = Dict.prune x

theorem lookupTriple_some {pts : List ATriple} {x : PDict} {t : ATriple} (h : lookupTriple pts x = some t) :
    t ∈ pts ∧ Dict.eqv t.x (Dict.prune x) = true :=
  ⟨List.mem_of_find?_eq_some h, (List.find?_some h :)⟩

theorem lookupTriple_none {pts : List ATriple} {x : PDict} :
    lookupTriple pts x = none ↔ ∀ t ∈ pts, ¬ Dict.eqv t.x (Dict.prune x) = true :=
  List.find?_eq_none

theorem lookup_prune_arg (pts : List ATriple) (x : PDict) : lookupTriple pts (Dict.prune x) = lookupTriple pts x := by
  unfold lookupTriple; rw [Dict.prune_prune]

theorem wfW_record (w : AW) (f : Nat) (t : ATriple) (hw : WfW w)
    (hx : (Dict.keys t.x).Nodup) (hg : (Dict.keys t.g).Nodup) (hv : (Dict.keys t.v).Nodup) :
    WfW (w.record f t) := by
  intro g t' ht'
  rcases mem_or_eq_of_mem_record ht' with h | rfl
  · exact hw g t' h
  · exact ⟨Dict.nodup_keys_prune _ hx, Dict.nodup_keys_prune _ hg, Dict.nodup_keys_prune _ hv⟩

theorem wfW_counters (w : AW) (a b : Nat) (hw : WfW w) : WfW { w with nP := a, nE := b } := hw

theorem wfW_setDecomp (w : AW) (f : Nat) (d : Dict Nat) (hw : WfW w) : WfW (w.setDecomp f d) :=
  fun g t ht => hw g t (pts_setDecomp w f g d ▸ ht)

/-- the two things `oracle` does on a leaf function: hand out the stored triplet of a differentiable function, or
record a triplet at `x` with a new leaf gradient and the stored value — a new leaf value if nothing is stored -/
theorem oracleLeafA_cases (w : AW) (f : Nat) (x : PDict) :
    (∃ t, lookupTriple (w.getF f).pts x = some t ∧ (w.getF f).reuse = true ∧ oracleLeafA w f x = (w, t.g, t.v)) ∨
    ∃ b v, oracleLeafA w f x =
        (({ w with nP := w.nP + 1, nE := b } : AW).record f ⟨x, leafPoint w.nP, v⟩, leafPoint w.nP, v) ∧
      ((∃ t, lookupTriple (w.getF f).pts x = some t ∧ (w.getF f).reuse = false ∧ v = t.v) ∨
        (lookupTriple (w.getF f).pts x = none ∧ v = leafExpr w.nE)) := by
  cases hl : lookupTriple (w.getF f).pts x with
  | some t =>
    by_cases hr : (w.getF f).reuse = true
    · exact Or.inl ⟨t, rfl, hr, by simp [oracleLeafA, hl, hr]⟩
    · exact Or.inr ⟨w.nE, t.v, by simp [oracleLeafA, hl, hr], Or.inl ⟨t, rfl, eq_false_of_ne_true hr, rfl⟩⟩
  | none => exact Or.inr ⟨w.nE + 1, leafExpr w.nE, by simp [oracleLeafA, hl], Or.inr ⟨rfl, rfl⟩⟩

theorem extends_oracleLeafA (w : AW) (f : Nat) (x : PDict) : Extends w (oracleLeafA w f x).1 := by
  rcases oracleLeafA_cases w f x with ⟨t, _, _, e⟩ | ⟨b, v, e, _⟩ <;> rw [e]
  · exact Extends.refl w
  · exact (extends_counters w _ _).trans (extends_record _ f _)

theorem pts_oracleLeafA_of_ne (w : AW) {f g : Nat} (x : PDict) (h : g ≠ f) :
    ((oracleLeafA w f x).1.getF g).pts = (w.getF g).pts := by
  rcases oracleLeafA_cases w f x with ⟨t, _, _, e⟩ | ⟨b, v, e, _⟩
  · rw [e]
  · rw [e]; exact pts_record_of_ne _ _ h

theorem oracleLeafA_val_of_some (w : AW) (f : Nat) (x : PDict) (t : ATriple)
    (h : lookupTriple (w.getF f).pts x = some t) : (oracleLeafA w f x).2.2 = t.v := by
  unfold oracleLeafA
  simp only [h]
  split <;> rfl

/-- **`oracle` on a leaf function**: the world only grows, stays well formed, and the returned
gradient and value are those of a triplet recorded at the queried point. -/
theorem oracleLeafA_spec (w : AW) (f : Nat) (x : PDict) (hf : f < w.funs.length) (hw : WfW w)
    (hx : (Dict.keys x).Nodup) :
    let r := oracleLeafA w f x
    Extends w r.1 ∧ WfW r.1 ∧ (Dict.keys r.2.1).Nodup ∧ (Dict.keys r.2.2).Nodup ∧
    ∃ t ∈ (r.1.getF f).pts, AtPoint t x ∧ (∀ val, gden val t.g = gden val r.2.1) ∧ (∀ φ, vden φ t.v = vden φ r.2.2) := by
  intro r
  refine ⟨extends_oracleLeafA w f x, ?_⟩
  rcases oracleLeafA_cases w f x with ⟨t, hl, _, e⟩ | ⟨b, v, e, hv⟩ <;> simp only [r, e]
  · have ht := lookupTriple_some hl
    exact ⟨hw, (hw f t ht.1).2.1, (hw f t ht.1).2.2, t, ht.1, Or.inl ht.2, fun _ => rfl, fun _ => rfl⟩
  · have hvk : (Dict.keys v).Nodup := by
      rcases hv with ⟨t, hl, _, rfl⟩ | ⟨_, rfl⟩
      · exact (hw f t (lookupTriple_some hl).1).2.2
      · exact Dict.nodup_keys_single _ _
    exact ⟨wfW_record _ f _ (wfW_counters w _ _ hw) hx (Dict.nodup_keys_single _ _) hvk, Dict.nodup_keys_single _ _, hvk,
      _, mem_record_self _ f _ hf, Or.inr rfl, fun val => gden_prune val _, fun φ => vden_prune φ _⟩

end Pepit

#print axioms Pepit.oracleLeafA_spec
