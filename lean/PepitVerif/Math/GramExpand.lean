import PepitVerif.Math.GramAttr
import Mathlib.Analysis.InnerProductSpace.Basic

/-!
# The simp set `gram_expand`, generic part

Squared norms as inner products, bilinearity of the inner product, and the cast `ℚ → ℝ` moved from a generated coefficient
to the parameters in it.  `real_inner_comm` is a permutation lemma: `simp` applies it only towards the smaller term, so
`⟪a, b⟫` and `⟪b, a⟫` come out in the same orientation.  The modules that use the set add the equations of their own
denotation (`QForm.den`, `Dict.denM`).
-/

open RealInnerProductSpace in
@[gram_expand] theorem norm_sq_eq_real_inner_self {E : Type*} [NormedAddCommGroup E] [InnerProductSpace ℝ E] (x : E) :
    ‖x‖ ^ 2 = ⟪x, x⟫ :=
  (real_inner_self_eq_norm_sq x).symm

attribute [gram_expand] inner_add_left inner_add_right inner_sub_left inner_sub_right real_inner_smul_left
  real_inner_smul_right real_inner_comm Rat.cast_add Rat.cast_sub Rat.cast_mul Rat.cast_div
  Rat.cast_neg Rat.cast_pow Rat.cast_zero Rat.cast_one Rat.cast_ofNat
