import PepitModel.Dict
import Mathlib.Data.Real.Basic
import Mathlib.Tactic.Module

/-!
# Semantics of dictionaries

`Dict.denM val d = Σ (c : ℝ) • val k` in any real module, and what the dictionary operations of
`tools/dict_operations.py` do to it.  Points and expressions are interpreted in `Math/AlgebraSem`.
-/

namespace Dict
variable {κ : Type} [DecidableEq κ] {M : Type*} [AddCommGroup M] [Module ℝ M]

/-- denotation of a dictionary under a valuation of its keys -/
def denM (val : κ → M) (d : Dict κ) : M := (d.map (fun kc => ((kc.2 : ℚ) : ℝ) • val kc.1)).sum

omit [DecidableEq κ] in
@[simp] theorem denM_nil (val : κ → M) : denM val ([] : Dict κ) = 0 := rfl
omit [DecidableEq κ] in
@[simp] theorem denM_cons (val : κ → M) (k : κ) (c : Coef) (t : Dict κ) :
    denM val ((k, c) :: t) = ((c : ℚ) : ℝ) • val k + denM val t := by simp [denM]
omit [DecidableEq κ] in
theorem denM_append (val : κ → M) (a b : Dict κ) : denM val (a ++ b) = denM val a + denM val b := by
  simp [denM]

omit [DecidableEq κ] in
theorem keys_cons (k : κ) (c : Coef) (t : Dict κ) : keys ((k, c) :: t) = k :: keys t := rfl

omit [DecidableEq κ] in
theorem nodup_keys_single (k : κ) (c : Coef) : (keys [(k, c)]).Nodup := List.nodup_singleton k

theorem contains_iff_mem_keys (d : Dict κ) (k : κ) : d.contains k = true ↔ k ∈ keys d := by
  simp [contains, get?, keys]

theorem keys_addAt (d : Dict κ) (k : κ) (c : Coef) : keys (addAt d k c) = keys d := by
  induction d with
  | nil => rfl
  | cons hd t ih => obtain ⟨k', c'⟩ := hd; simp only [addAt]; split <;> simp [keys_cons, ih]

theorem denM_addAt (val : κ → M) (d : Dict κ) (k : κ) (c : Coef) (h : k ∈ keys d) :
    denM val (addAt d k c) = denM val d + ((c : ℚ) : ℝ) • val k := by
  induction d with
  | nil => simp [keys] at h
  | cons hd t ih =>
    obtain ⟨k', c'⟩ := hd
    simp only [addAt]
    split
    · next heq => subst heq; simp only [denM_cons]; push_cast; module
    · next heq =>
      rw [keys_cons, List.mem_cons] at h
      rw [denM_cons, denM_cons, ih (h.resolve_left (Ne.symm heq))]; module

theorem keys_set (d : Dict κ) (k : κ) (c : Coef) :
    keys (set d k c) = if k ∈ keys d then keys d else keys d ++ [k] := by
  induction d with
  | nil => rfl
  | cons hd t ih =>
    obtain ⟨k', c'⟩ := hd
    by_cases heq : k' = k
    · simp [set, heq, keys_cons]
    · simp only [set, heq, if_false, keys_cons, ih, List.mem_cons, Ne.symm heq, false_or]
      split <;> rfl

theorem denM_set_of_not_mem (val : κ → M) (d : Dict κ) (k : κ) (c : Coef) (h : k ∉ keys d) :
    denM val (set d k c) = denM val d + ((c : ℚ) : ℝ) • val k := by
  induction d with
  | nil => simp [set]
  | cons hd t ih =>
    obtain ⟨k', c'⟩ := hd
    rw [keys_cons, List.mem_cons, not_or] at h
    simp only [set, Ne.symm h.1, if_false, denM_cons, ih h.2]; module

/-- `+=` where the key is present, `=` where it is not, adds to the denotation, whatever test `p` tells the two cases
apart (`multiply_dicts` tests the accumulator itself, `merge_dict` tests `dict1`) -/
theorem denM_upsert (val : κ → M) (p : Prop) [Decidable p] (m : Dict κ) (k : κ) (c : Coef) (hp : p ↔ k ∈ keys m) :
    denM val (if p then addAt m k c else set m k c) = denM val m + ((c : ℚ) : ℝ) • val k := by
  split
  · next h => exact denM_addAt val m k c (hp.mp h)
  · next h => exact denM_set_of_not_mem val m k c (mt hp.mpr h)

theorem mem_keys_upsert (p : Prop) [Decidable p] (m : Dict κ) (k : κ) (c : Coef) {k' : κ} (h : k' ≠ k) :
    k' ∈ keys (if p then addAt m k c else set m k c) ↔ k' ∈ keys m := by
  split
  · rw [keys_addAt]
  · rw [keys_set]; split <;> simp [h]

/-- The loop of `merge_dict` started from any accumulator `m` that holds, of the keys still to come, exactly those of
`dict1`: the test in `dict1` then is the test in the accumulator, and stays so, the keys to come being distinct. -/
theorem denM_merge_aux (val : κ → M) (d1 : Dict κ) :
    ∀ (d2 m : Dict κ), (∀ k ∈ keys d2, k ∈ keys d1 ↔ k ∈ keys m) → (keys d2).Nodup →
      denM val (d2.foldl (fun m kc => if d1.contains kc.1 then addAt m kc.1 kc.2 else set m kc.1 kc.2) m)
        = denM val m + denM val d2
  | [], m, _, _ => by simp
  | (k, c) :: t, m, h, hnd => by
    rw [keys_cons, List.nodup_cons] at hnd
    rw [List.foldl_cons, denM_merge_aux val d1 t _ (fun k' hk' => ?_) hnd.2,
      denM_upsert val _ m k c ((contains_iff_mem_keys d1 k).trans (h k List.mem_cons_self)), denM_cons, add_assoc]
    exact (h k' (List.mem_cons_of_mem _ hk')).trans (mem_keys_upsert _ m k c (ne_of_mem_of_not_mem hk' hnd.1)).symm

theorem denM_merge (val : κ → M) (d1 d2 : Dict κ) (h2 : (keys d2).Nodup) :
    denM val (merge d1 d2) = denM val d1 + denM val d2 :=
  denM_merge_aux val d1 d2 d1 (fun _ _ => Iff.rfl) h2

omit [DecidableEq κ] in
theorem denM_prune (val : κ → M) (d : Dict κ) : denM val (prune d) = denM val d := by
  induction d with
  | nil => rfl
  | cons h t ih =>
    obtain ⟨k, c⟩ := h
    unfold prune at ih ⊢
    by_cases hc : c = 0 <;> simp [hc, ih]

omit [DecidableEq κ] in
theorem denM_scale (val : κ → M) (d : Dict κ) (c : Coef) :
    denM val (scale d c) = ((c : ℚ) : ℝ) • denM val d := by
  induction d with
  | nil => simp [scale]
  | cons h t ih =>
    obtain ⟨k, c'⟩ := h
    unfold scale at ih ⊢
    rw [List.map_cons, denM_cons, denM_cons, ih]; push_cast; module

omit [DecidableEq κ] in
theorem keys_scale (d : Dict κ) (c : Coef) : keys (scale d c) = keys d := by
  simp [keys, scale, List.map_map, Function.comp_def]

end Dict
