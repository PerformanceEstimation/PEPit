import PepitVerif.Math.Interp
import PepitModel.Algebra
import Mathlib.Analysis.InnerProductSpace.Basic
import Mathlib.Tactic.Ring

/-!
# Denotation of `Point` / `Expression` operators (property C06, lemma layer)
-/

open RealInnerProductSpace

variable {E : Type*} [NormedAddCommGroup E] [InnerProductSpace ℝ E]

namespace Dict
variable {κ : Type} [DecidableEq κ] {M : Type*} [AddCommGroup M] [Module ℝ M]

omit [DecidableEq κ] in
theorem denM_map_key {κ' : Type} (val : κ' → M) (f : κ → κ') (d : Dict κ) :
    denM val (d.map (fun kc => (f kc.1, kc.2))) = denM (fun k => val (f k)) d := by
  induction d with
  | nil => rfl
  | cons h t ih => obtain ⟨k, c⟩ := h; simp only [List.map_cons, denM_cons, ih]

theorem denM_mulRow {κ₂ : Type} [DecidableEq κ₂] (val : κ × κ₂ → M) (k1 : κ) (c1 : Coef)
    (d2 : Dict κ₂) (acc : Dict (κ × κ₂)) :
    denM val (mulRow k1 c1 d2 acc) = denM val acc + ((c1 : ℚ) : ℝ) • denM (fun k2 => val (k1, k2)) d2 := by
  unfold mulRow
  induction d2 generalizing acc with
  | nil => simp
  | cons h t ih =>
    obtain ⟨k2, c2⟩ := h
    simp only [List.foldl_cons, denM_cons]
    rw [ih, denM_upsert val _ acc _ _ (contains_iff_mem_keys _ _)]; push_cast; module

theorem denM_multiply_aux {κ₂ : Type} [DecidableEq κ₂] (val : κ × κ₂ → M) (d1 : Dict κ) (d2 : Dict κ₂)
    (acc : Dict (κ × κ₂)) :
    denM val (d1.foldl (fun m kc => mulRow kc.1 kc.2 d2 m) acc)
      = denM val acc + denM (fun k1 => denM (fun k2 => val (k1, k2)) d2) d1 := by
  induction d1 generalizing acc with
  | nil => simp
  | cons h t ih =>
    obtain ⟨k1, c1⟩ := h
    simp only [List.foldl_cons, denM_cons]
    rw [ih, denM_mulRow]; module

/-- `multiply_dicts` develops the product of two sums (no side condition). -/
theorem denM_multiply {κ₂ : Type} [DecidableEq κ₂] (val : κ × κ₂ → M) (d1 : Dict κ) (d2 : Dict κ₂) :
    denM val (multiply d1 d2) = denM (fun k1 => denM (fun k2 => val (k1, k2)) d2) d1 := by
  unfold multiply
  rw [denM_multiply_aux, denM_nil, zero_add]

/-! `__add__`, `__neg__` and `__sub__` are the same dictionary operations on points and on expressions -/

theorem denM_add (val : κ → M) (a b : Dict κ) (hb : (keys b).Nodup) :
    denM val (prune (merge a b)) = denM val a + denM val b := by
  rw [denM_prune, denM_merge _ _ _ hb]

omit [DecidableEq κ] in
theorem denM_neg (val : κ → M) (a : Dict κ) : denM val (scale a (-1)) = - denM val a := by
  rw [denM_scale]; push_cast; exact neg_one_smul ℝ _

theorem denM_sub (val : κ → M) (a b : Dict κ) (hb : (keys b).Nodup) :
    denM val (prune (merge a (scale b (-1)))) = denM val a - denM val b := by
  rw [denM_add _ _ _ (by rwa [keys_scale]), denM_neg, sub_eq_add_neg]

omit [DecidableEq κ] in
/-- `__truediv__` multiplies by `1 / c` -/
theorem denM_scale_one_div (val : κ → M) (d : Dict κ) {c : Coef} (hc : c ≠ 0) :
    ((c : ℚ) : ℝ) • denM val (scale d (1 / c)) = denM val d := by
  have : ((c : ℚ) : ℝ) ≠ 0 := by exact_mod_cast hc
  rw [denM_scale, smul_smul]; push_cast; rw [mul_one_div_cancel this, one_smul]

omit [DecidableEq κ] in
theorem inner_denM_right (v : κ → E) (x : E) (b : Dict κ) : ⟪x, denM v b⟫ = denM (fun j => ⟪x, v j⟫) b := by
  induction b with
  | nil => simp
  | cons h t ih =>
    obtain ⟨j, cj⟩ := h
    simp only [denM_cons, inner_add_right, real_inner_smul_right, ih, smul_eq_mul]

omit [DecidableEq κ] in
theorem inner_denM {κ₂ : Type} (v : κ → E) (u : κ₂ → E) (a : Dict κ) (b : Dict κ₂) :
    ⟪denM v a, denM u b⟫ = denM (fun i => denM (fun j => ⟪v i, u j⟫) b) a := by
  induction a with
  | nil => simp
  | cons h t ih =>
    obtain ⟨i, ci⟩ := h
    simp only [denM_cons, inner_add_left, ih]
    rw [real_inner_smul_left, inner_denM_right, smul_eq_mul]

end Dict

/-- value of an expression key under an interpretation of leaf points and leaf expressions -/
def keyVal (v : Nat → E) (φ : Nat → ℝ) : EKey → ℝ
  | .f i => φ i
  | .ip i j => ⟪v i, v j⟫
  | .one => 1

namespace PDict
/-- the vector a point decomposition denotes -/
def den (v : Nat → E) (d : PDict) : E := Dict.denM v d

theorem den_add (v : Nat → E) (a b : PDict) (hb : (Dict.keys b).Nodup) :
    den v (add a b) = den v a + den v b := Dict.denM_add v a b hb

theorem den_smul (v : Nat → E) (c : Coef) (a : PDict) : den v (smul c a) = ((c : ℚ) : ℝ) • den v a :=
  Dict.denM_scale v a c

theorem den_neg (v : Nat → E) (a : PDict) : den v (neg a) = - den v a := Dict.denM_neg v a

theorem den_sub (v : Nat → E) (a b : PDict) (hb : (Dict.keys b).Nodup) :
    den v (sub a b) = den v a - den v b := Dict.denM_sub v a b hb

theorem den_div (v : Nat → E) (a : PDict) (c : Coef) :
    den v (div a c) = (((1 / c : Coef) : ℚ) : ℝ) • den v a := den_smul v _ a

@[simp] theorem den_single (v : Nat → E) (k : Nat) : den v [(k, 1)] = v k := by simp [den]

end PDict

namespace EDict
/-- the real number an expression decomposition denotes -/
def den (v : Nat → E) (φ : Nat → ℝ) (d : EDict) : ℝ := Dict.denM (keyVal v φ) d

theorem den_add (v : Nat → E) (φ : Nat → ℝ) (a b : EDict) (hb : (Dict.keys b).Nodup) :
    den v φ (add a b) = den v φ a + den v φ b := Dict.denM_add _ a b hb

theorem den_addConst (v : Nat → E) (φ : Nat → ℝ) (a : EDict) (c : Coef) :
    den v φ (addConst a c) = den v φ a + ((c : ℚ) : ℝ) := by
  unfold den addConst
  rw [Dict.denM_add _ _ _ (Dict.nodup_keys_single _ _)]
  simp [keyVal]

theorem den_subConst (v : Nat → E) (φ : Nat → ℝ) (a : EDict) (c : Coef) :
    den v φ (subConst a c) = den v φ a - ((c : ℚ) : ℝ) := by
  unfold subConst; rw [den_addConst]; push_cast; ring

@[simp] theorem den_single (v : Nat → E) (φ : Nat → ℝ) (k : Nat) : den v φ [(EKey.f k, 1)] = φ k := by
  simp [den, keyVal]

theorem den_smul (v : Nat → E) (φ : Nat → ℝ) (c : Coef) (a : EDict) :
    den v φ (smul c a) = ((c : ℚ) : ℝ) * den v φ a := Dict.denM_scale _ a c

theorem den_neg (v : Nat → E) (φ : Nat → ℝ) (a : EDict) : den v φ (neg a) = - den v φ a := Dict.denM_neg _ a

theorem den_sub (v : Nat → E) (φ : Nat → ℝ) (a b : EDict) (hb : (Dict.keys b).Nodup) :
    den v φ (sub a b) = den v φ a - den v φ b := Dict.denM_sub _ a b hb

end EDict

/-- **Product of two points denotes their inner product** (`Point.__rmul__(Point)`), for all
decompositions, with no side condition. -/
theorem den_ip (v : Nat → E) (φ : Nat → ℝ) (a b : PDict) :
    EDict.den v φ (PDict.ip a b) = ⟪PDict.den v a, PDict.den v b⟫ := by
  unfold EDict.den PDict.ip PDict.den
  rw [Dict.denM_map_key (keyVal v φ) (fun k : Nat × Nat => EKey.ip k.1 k.2), Dict.denM_multiply, Dict.inner_denM]
  rfl

theorem den_ip_self (v : Nat → E) (φ : Nat → ℝ) (a : PDict) :
    EDict.den v φ (PDict.ip a a) = ‖PDict.den v a‖ ^ 2 := by
  rw [den_ip, real_inner_self_eq_norm_sq]

theorem den_sq (v : Nat → E) (φ : Nat → ℝ) (a : PDict) :
    EDict.den v φ (PDict.sq a) = ‖PDict.den v a‖ ^ 2 := den_ip_self v φ a

/-- squared distance, the shape of most initial conditions and metrics -/
theorem den_sq_sub (v : Nat → E) (φ : Nat → ℝ) (a b : PDict) (hb : (Dict.keys b).Nodup) :
    EDict.den v φ (PDict.sq (PDict.sub a b)) = ‖PDict.den v a - PDict.den v b‖ ^ 2 := by
  rw [den_sq, PDict.den_sub v a b hb]

#print axioms den_ip
#print axioms PDict.den_sub
#print axioms EDict.den_addConst
