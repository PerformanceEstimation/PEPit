import PepitVerif.Math.MatricesSem
import Mathlib.Data.Finset.Dedup
import Mathlib.Algebra.BigOperators.Group.List.Basic

/-!
# `expression_to_sparse_matrices` denotes the expression (property C05 / C11, sparse part)

MOSEK reads a symmetric matrix from its lower triangle: a triplet `(i, j, v)` with `i > j`
contributes `v * (G i j + G j i)`, a diagonal triplet `v * G i i`.

The value of the output is the sum of what each item contributes (`contrib`).  Per key this is the
key's own term plus, when the reversed key is present too, a `defect` that changes sign when the key
is reversed; so the defects cancel and the own terms remain.
-/

open Finset

/-- value of the symmetric pairing of index pair `(i, j)` read from the lower triangle -/
def symv (G : Nat → Nat → ℝ) (i j : Nat) : ℝ := if i = j then G i i else G i j + G j i

noncomputable def tripVal (G : Nat → Nat → ℝ) (t : Trip) : ℝ := ((t.val : ℚ) : ℝ) * symv G t.i t.j

/-- `⟨A, G⟩ + a·F + α` for the sparse output -/
noncomputable def evalSparse (G : Nat → Nat → ℝ) (F : Nat → ℝ) (S : SparseW) : ℝ :=
  (S.G.map (tripVal G)).sum + (S.F.map (fun ic => ((ic.2 : ℚ) : ℝ) * F ic.1)).sum + ((S.c : ℚ) : ℝ)

theorem symv_comm (G : Nat → Nat → ℝ) (i j : Nat) : symv G i j = symv G j i := by
  unfold symv
  by_cases h : i = j
  · rw [h]
  · rw [if_neg h, if_neg (Ne.symm h), add_comm]

theorem symv_max_min (G : Nat → Nat → ℝ) (i j : Nat) : symv G (max i j) (min i j) = symv G i j := by
  rcases Nat.le_total i j with h | h
  · rw [Nat.max_eq_right h, Nat.min_eq_left h, symv_comm]
  · rw [Nat.max_eq_left h, Nat.min_eq_right h]

theorem symv_of_symm {G : Nat → Nat → ℝ} (hG : ∀ i j, G i j = G j i) (i j : Nat) :
    symv G i j = if i = j then G i j else 2 * G i j := by
  unfold symv
  split
  · next h => rw [h]
  · rw [← hG i j, two_mul]

/-- what one loop iteration adds to the value of the sparse output -/
noncomputable def contrib (e : EDict) (G : Nat → Nat → ℝ) (F : Nat → ℝ) : EKey → Coef → ℝ
  | .f i, w => ((w : ℚ) : ℝ) * F i
  | .one, w => ((w : ℚ) : ℝ)
  | .ip i j, w =>
    if EKey.ip j i ∈ Dict.keys e then
      if i ≥ j then (((w + Dict.coefOf e (.ip j i)) / 2 : ℚ) : ℝ) * symv G i j else 0
    else (((w + 0) / 2 : ℚ) : ℝ) * symv G (max i j) (min i j)

/-- the constant is assigned, not accumulated: the step adds the item's contribution as long as no
constant has been stored before -/
theorem evalSparse_step (e : EDict) (G : Nat → Nat → ℝ) (F : Nat → ℝ) (acc : SparseW) (k : EKey) (w : Coef)
    (hc : k = .one → acc.c = 0) :
    evalSparse G F (sparseStep e acc (k, w)) = evalSparse G F acc + contrib e G F k w := by
  cases k with
  | f i => simp [sparseStep, evalSparse, contrib]; ring
  | one => simp [sparseStep, evalSparse, contrib, hc rfl]
  | ip i j =>
    simp only [sparseStep, contrib, Dict.coefOf, Dict.contains_iff_mem_keys]
    split_ifs
    · simp [evalSparse, tripVal]; ring
    · simp
    · simp [evalSparse, tripVal]; ring

theorem sparseStep_c (e : EDict) (acc : SparseW) (k : EKey) (w : Coef) (hk : k ≠ .one) :
    (sparseStep e acc (k, w)).c = acc.c := by
  cases k with
  | f i => rfl
  | one => exact absurd rfl hk
  | ip i j => simp only [sparseStep]; split_ifs <;> rfl

theorem evalSparse_foldl (e : EDict) (G : Nat → Nat → ℝ) (F : Nat → ℝ) :
    ∀ (l : EDict) (acc : SparseW), (Dict.keys l).Nodup → (EKey.one ∈ Dict.keys l → acc.c = 0) →
      evalSparse G F (l.foldl (sparseStep e) acc)
        = evalSparse G F acc + (l.map (fun kc => contrib e G F kc.1 kc.2)).sum
  | [], acc, _, _ => by simp
  | (k, w) :: t, acc, hnd, hone => by
    rw [Dict.keys_cons, List.nodup_cons] at hnd
    rw [Dict.keys_cons] at hone
    rw [List.foldl_cons, evalSparse_foldl e G F t _ hnd.2,
      evalSparse_step e G F acc k w fun hk => hone (hk ▸ List.mem_cons_self), List.map_cons, List.sum_cons, add_assoc]
    -- `one` is still to come: this item is another key and leaves the constant at `0`
    intro h1
    rw [sparseStep_c e acc k w fun hk => hnd.1 (hk ▸ h1)]
    exact hone (List.mem_cons_of_mem _ h1)

/-- what the sparse contribution of an inner-product key whose mirror is present has beyond the key's own
term: below the diagonal it also carries the mirror's coefficient, above the diagonal it is empty -/
noncomputable def defect (c : EKey → Coef) (G : Nat → Nat → ℝ) : EKey → ℝ
  | .ip i j =>
    if j < i then ((c (.ip j i) : ℚ) : ℝ) * G i j else if i < j then - (((c (.ip i j) : ℚ) : ℝ) * G i j) else 0
  | _ => 0

theorem defect_swap (c : EKey → Coef) (G : Nat → Nat → ℝ) (hG : ∀ i j, G i j = G j i) (k : EKey) :
    defect c G k.swap = - defect c G k := by
  cases k with
  | f i => simp [EKey.swap, defect]
  | one => simp [EKey.swap, defect]
  | ip i j =>
    simp only [EKey.swap, defect, hG j i]
    rcases Nat.lt_trichotomy i j with h | h | h
    · simp [h, Nat.lt_asymm h]
    · simp [h]
    · simp [h, Nat.lt_asymm h]

theorem sum_defect_zero (K : Finset EKey) (hK : ∀ k ∈ K, k.swap ∈ K) (c : EKey → Coef) (G : Nat → Nat → ℝ)
    (hG : ∀ i j, G i j = G j i) : ∑ k ∈ K, defect c G k = 0 := by
  refine Finset.sum_involution (fun k _ => k.swap) ?_ ?_ hK fun k _ => k.swap_swap
  · intro k _
    rw [defect_swap c G hG, add_neg_cancel]
  · intro k _ hne heq
    have h := defect_swap c G hG k
    rw [heq] at h
    exact hne (self_eq_neg.mp h)

theorem contrib_coefOf (e : EDict) (G : Nat → Nat → ℝ) (F : Nat → ℝ) (hG : ∀ i j, G i j = G j i) (k : EKey)
    (hk : k ∈ Dict.keys e) :
    contrib e G F k (Dict.coefOf e k) = ((Dict.coefOf e k : ℚ) : ℝ) * keyValGF G F k
      + if k.swap ∈ Dict.keys e then defect (Dict.coefOf e) G k else 0 := by
  cases k with
  | f i => simp [contrib, keyValGF, defect]
  | one => simp [contrib, keyValGF, defect]
  | ip i j =>
    simp only [contrib, keyValGF, defect]
    by_cases hm : EKey.ip j i ∈ Dict.keys e
    · rw [if_pos hm, if_pos (show (EKey.ip i j).swap ∈ Dict.keys e from hm), symv_of_symm hG]
      rcases Nat.lt_trichotomy i j with h | h | h
      · rw [if_neg (Nat.not_le.mpr h), if_neg (Nat.lt_asymm h), if_pos h]; ring
      · subst h; simp only [ge_iff_le, le_refl, if_true, lt_irrefl, if_false]; push_cast; ring
      · rw [if_pos (Nat.le_of_lt h), if_neg (Nat.ne_of_gt h), if_pos h]; push_cast; ring
    · have hne : i ≠ j := fun h => hm (h ▸ hk)
      rw [if_neg hm, if_neg (show (EKey.ip i j).swap ∉ Dict.keys e from hm), symv_max_min, symv_of_symm hG,
        if_neg hne]
      push_cast; ring

/-- **`expression_to_sparse_matrices` is faithful** for every duplicate-free decomposition and
every symmetric `G` (no bound on indices or sizes). -/
theorem sparse_correct (G : Nat → Nat → ℝ) (F : Nat → ℝ) (hG : ∀ i j, G i j = G j i)
    (e : EDict) (hnd : (Dict.keys e).Nodup) :
    evalSparse G F (toSparse e) = EDict.evalGF G F e := by
  have h0 : evalSparse G F ⟨[], [], 0⟩ = 0 := by simp [evalSparse]
  have hK : ∀ k ∈ (Dict.keys e).toFinset.filter (·.swap ∈ Dict.keys e),
      k.swap ∈ (Dict.keys e).toFinset.filter (·.swap ∈ Dict.keys e) := by
    simp +contextual [EKey.swap_swap]
  -- the loop adds up the contributions; both sides as sums over the keys
  rw [toSparse, evalSparse_foldl e G F e ⟨[], [], 0⟩ hnd (fun _ => rfl), h0, zero_add, Dict.sum_eq_sum_keys e hnd,
    EDict.evalGF_eq_sum_keys G F e hnd]
  -- a contribution is the key's own term plus a defect where the mirror is a key too, and the defects cancel in pairs
  rw [Finset.sum_congr rfl fun k hk => contrib_coefOf e G F hG k (List.mem_toFinset.mp hk),
    Finset.sum_add_distrib, ← Finset.sum_filter, sum_defect_zero _ hK _ G hG, add_zero]

#print axioms sparse_correct
