import PepitVerif.Math.ListAux
import PepitModel.Pairs
import Mathlib.Data.List.Nodup
import Mathlib.Data.List.ProdSigma

/-!
# Completeness of the pair enumeration (property C04, list-combinatorics part)
-/

theorem pairIdx_eq_filter (n1 n2 : Nat) (symmetry : Bool) :
    pairIdx n1 n2 symmetry =
      (List.range n1 ×ˢ List.range n2).filter (fun ij => !pairSkipped symmetry ij.1 ij.2) := by
  simp only [pairIdx, List.filterMap_ite_none, SProd.sprod, List.product, List.filter_flatMap, List.filter_map]
  rfl

theorem mem_pairIdx (n1 n2 : Nat) (symmetry : Bool) (i j : Nat) :
    (i, j) ∈ pairIdx n1 n2 symmetry ↔ i < n1 ∧ j < n2 ∧ pairSkipped symmetry i j = false := by
  simp [pairIdx_eq_filter, and_assoc]

theorem nodup_pairIdx (n1 n2 : Nat) (symmetry : Bool) : (pairIdx n1 n2 symmetry).Nodup := by
  rw [pairIdx_eq_filter]
  exact (List.nodup_range.product List.nodup_range).filter _

/-- same list, no symmetry: exactly all ordered pairs of distinct indices — no pair skipped,
none added, for every length -/
theorem pairIdx_same_complete (n i j : Nat) :
    (i, j) ∈ pairIdx n n false ↔ i < n ∧ j < n ∧ i ≠ j := by
  rw [mem_pairIdx]; simp [pairSkipped]

/-- same list, symmetric condition: exactly the pairs `i < j` -/
theorem pairIdx_same_symmetric (n i j : Nat) :
    (i, j) ∈ pairIdx n n true ↔ i < j ∧ j < n := by
  rw [mem_pairIdx]
  simp only [pairSkipped, Bool.and_true, Bool.or_eq_false_iff, beq_eq_false_iff_ne, ne_eq,
    decide_eq_false_iff_not, Nat.not_lt]
  omega

/-- with a symmetric condition every unordered pair of distinct indices is covered once -/
theorem pairIdx_symmetric_covers (n i j : Nat) (hi : i < n) (hj : j < n) (hne : i ≠ j) :
    ((i, j) ∈ pairIdx n n true ∧ (j, i) ∉ pairIdx n n true) ∨
    ((j, i) ∈ pairIdx n n true ∧ (i, j) ∉ pairIdx n n true) := by
  simp only [pairIdx_same_symmetric]
  omega

/-! ## two different lists (stationary samples × all samples), identity-based skip

The skip test compares the samples themselves.  With an index-based test (`i == j` across two different
lists, the code before the `fix:` commit) `mem_pairsTwo` is false: a stationary point declared after
another sample loses a genuine pair (see the example below). -/

/-- for either value of `symmetry`: a pair is instantiated exactly when its two samples stand at positions
that are not skipped -/
theorem mem_pairsTwo_iff {α : Type} [DecidableEq α] (l1 l2 : List α) (symmetry : Bool) (a b : α) :
    (a, b) ∈ pairsTwo l1 l2 symmetry ↔
      ∃ i j, l1[i]? = some a ∧ l2[j]? = some b ∧ skipTwo (decide (a = b)) symmetry i j = false := by
  simp only [pairsTwo, List.mem_flatMap, List.mem_filterMap, List.mem_zipIdx_iff_getElem?, Prod.exists,
    Option.ite_none_left_eq_some, Option.some.injEq, Prod.mk.injEq, Bool.not_eq_true]
  constructor
  · rintro ⟨a', i, hi, b', j, hj, hs, rfl, rfl⟩
    exact ⟨i, j, hi, hj, hs⟩
  · rintro ⟨i, j, hi, hj, hs⟩
    exact ⟨a, i, hi, b, j, hj, hs, rfl, rfl⟩

/-- **completeness for two lists**: without the symmetry halving, a condition is instantiated on
exactly the ordered pairs (sample of list 1, sample of list 2) that are not the same sample -/
theorem mem_pairsTwo {α : Type} [DecidableEq α] (l1 l2 : List α) (a b : α) :
    (a, b) ∈ pairsTwo l1 l2 false ↔ a ∈ l1 ∧ b ∈ l2 ∧ a ≠ b := by
  rw [mem_pairsTwo_iff]
  simp only [skipTwo, Bool.and_false, Bool.or_false, decide_eq_false_iff_not, List.mem_iff_getElem?]
  constructor
  · rintro ⟨i, j, hi, hj, hne⟩
    exact ⟨⟨i, hi⟩, ⟨j, hj⟩, hne⟩
  · rintro ⟨⟨i, hi⟩, ⟨j, hj⟩, hne⟩
    exact ⟨i, j, hi, hj, hne⟩

/-- the order in which the samples of either list were recorded does not change the set of
instantiated pairs -/
theorem pairsTwo_perm_invariant {α : Type} [DecidableEq α] (l1 l1' l2 l2' : List α)
    (h1 : l1.Perm l1') (h2 : l2.Perm l2') (a b : α) :
    (a, b) ∈ pairsTwo l1 l2 false ↔ (a, b) ∈ pairsTwo l1' l2' false := by
  rw [mem_pairsTwo, mem_pairsTwo, h1.mem_iff, h2.mem_iff]

/-- the stationary point declared *after* another sample (the input on which the index-based
skip dropped the genuine pair): both orders instantiate the pair `(x*, x₀)` and never `(x*, x*)` -/
example : pairsTwo [1] [0, 1] false = [(1, 0)] ∧ pairsTwo [0] [0, 1] false = [(0, 1)] := by decide

theorem mem_pairsOf {α : Type} (l : List α) (hnd : l.Nodup) (a b : α) :
    (a, b) ∈ pairsOf l false ↔ a ∈ l ∧ b ∈ l ∧ a ≠ b := by
  simp only [pairsOf, List.mem_filterMap, Prod.exists, pairIdx_same_complete]
  constructor
  · rintro ⟨i, j, ⟨hi, hj, hne⟩, h⟩
    rw [List.getElem?_eq_getElem hi, List.getElem?_eq_getElem hj] at h
    cases h
    -- distinct positions of a duplicate-free list hold distinct samples
    exact ⟨List.getElem_mem hi, List.getElem_mem hj, fun e => hne (hnd.getElem_inj_iff.mp e)⟩
  · rintro ⟨ha, hb, hne⟩
    obtain ⟨i, hi, rfl⟩ := List.getElem_of_mem ha
    obtain ⟨j, hj, rfl⟩ := List.getElem_of_mem hb
    refine ⟨i, j, ⟨hi, hj, fun e => hne (by subst e; rfl)⟩, ?_⟩
    rw [List.getElem?_eq_getElem hi, List.getElem?_eq_getElem hj]

/-- recording the same samples in another order instantiates the condition on the same set of
ordered pairs -/
theorem pairsOf_perm_invariant {α : Type} (l l' : List α) (hnd : l.Nodup) (hp : l.Perm l')
    (a b : α) : (a, b) ∈ pairsOf l false ↔ (a, b) ∈ pairsOf l' false := by
  rw [mem_pairsOf l hnd, mem_pairsOf l' (hp.nodup_iff.mp hnd), hp.mem_iff, hp.mem_iff]

#print axioms pairsOf_perm_invariant
#print axioms mem_pairsTwo
#print axioms nodup_pairIdx
