import PepitModel.Remainder
import PepitVerif.Math.WellFormed

/-!
# "The last term gets the remainder": the recorded triplet of a composite function is the
weighted sum of the triplets of its terms (algebraic core of property C07)

Gradients and values go through the same dictionary operations, so the computation is done once, for
dictionaries over any keys valued in any real module.
-/

namespace Dict
variable {κ : Type} [DecidableEq κ] {M : Type*} [AddCommGroup M] [Module ℝ M]

/-- the running remainder `gl = gl - weight * grad` of `add_point` -/
theorem denM_remainder (val : κ → M) (g : Dict κ) (terms : List (Coef × Dict κ))
    (hnd : ∀ wg ∈ terms, (keys wg.2).Nodup) :
    denM val (terms.foldl (fun gl wg => prune (merge gl (scale (scale wg.2 wg.1) (-1)))) g)
      = denM val g - (terms.map (fun wg => ((wg.1 : ℚ) : ℝ) • denM val wg.2)).sum := by
  induction terms generalizing g with
  | nil => simp
  | cons hd t ih =>
    rw [List.foldl_cons, ih _ (fun wg h => hnd wg (List.mem_cons_of_mem _ h)),
      denM_sub _ _ _ (nodup_keys_scale _ _ (hnd hd List.mem_cons_self)), denM_scale, List.map_cons, List.sum_cons]
    abel

theorem denM_remainder_last (val : κ → M) (g : Dict κ) (terms : List (Coef × Dict κ)) (wn : Coef) (hwn : wn ≠ 0)
    (hnd : ∀ wg ∈ terms, (keys wg.2).Nodup) :
    (terms.map (fun wg => ((wg.1 : ℚ) : ℝ) • denM val wg.2)).sum
      + ((wn : ℚ) : ℝ) • denM val
          (scale (terms.foldl (fun gl wg => prune (merge gl (scale (scale wg.2 wg.1) (-1)))) g) (1 / wn))
      = denM val g := by
  rw [denM_scale_one_div val _ hwn, denM_remainder val g terms hnd]; abel

end Dict

variable {E : Type*} [NormedAddCommGroup E] [InnerProductSpace ℝ E]

/-- **sum consistency (gradients)**: with a nonzero last weight, the weighted sum of the terms'
gradients — the `n − 1` returned by their oracles and the remainder given to the last term — is
the composite's gradient, for any number of terms and any weights. -/
theorem sum_consistent_G (v : Nat → E) (g : PDict) (terms : List (Coef × PDict)) (wn : Coef)
    (hwn : wn ≠ 0) (hnd : ∀ wg ∈ terms, (Dict.keys wg.2).Nodup) :
    (terms.map (fun wg => ((wg.1 : ℚ) : ℝ) • PDict.den v wg.2)).sum
      + ((wn : ℚ) : ℝ) • PDict.den v (lastG g terms wn) = PDict.den v g :=
  Dict.denM_remainder_last v g terms wn hwn hnd

/-- **sum consistency (values)** -/
theorem sum_consistent_V (v : Nat → E) (φ : Nat → ℝ) (f : EDict) (terms : List (Coef × EDict))
    (wn : Coef) (hwn : wn ≠ 0) (hnd : ∀ wv ∈ terms, (Dict.keys wv.2).Nodup) :
    (terms.map (fun wv => ((wv.1 : ℚ) : ℝ) * EDict.den v φ wv.2)).sum
      + ((wn : ℚ) : ℝ) * EDict.den v φ (lastV f terms wn) = EDict.den v φ f :=
  Dict.denM_remainder_last (keyVal v φ) f terms wn hwn hnd

/-- the zero-weight case really is different: dividing the remainder by `0` (Lean's total
division) or, in Python, raising `ZeroDivisionError` — the code avoids it by pruning, and the
terms it prunes are the ones whose samples are then missing. -/
example : (1 / (0 : Coef)) = 0 := by decide +kernel

#print axioms sum_consistent_G
#print axioms sum_consistent_V
