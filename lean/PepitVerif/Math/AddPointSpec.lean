import PepitVerif.Math.DistributeSpec
import Mathlib.Data.List.Perm.Basic
import Mathlib.Algebra.BigOperators.Group.List.Lemmas

/-!
# `add_point` on a composite: the new triplet is the weighted sum of its terms' triplets
-/

namespace Pepit

/-- function form of the witness: one triplet per term, chosen by function index -/
def SumWitnessF (w : AW) (D : List (Nat × Coef)) (x g : PDict) (v : EDict) : Prop :=
  ∃ pick : Nat → ATriple,
    (∀ tw ∈ D, pick tw.1 ∈ (w.getF tw.1).pts ∧ AtPoint (pick tw.1) x) ∧
    (∀ val, (D.map (fun tw => ((tw.2 : ℚ) : ℝ) * gden val (pick tw.1).g)).sum = gden val g) ∧
    (∀ φ, (D.map (fun tw => ((tw.2 : ℚ) : ℝ) * vden φ (pick tw.1).v)).sum = vden φ v)

theorem sumWitnessF_perm {w : AW} {D D' : List (Nat × Coef)} {x g : PDict} {v : EDict}
    (hp : D.Perm D') (h : SumWitnessF w D x g v) : SumWitnessF w D' x g v := by
  obtain ⟨pick, hm, hg, hv⟩ := h
  exact ⟨pick, fun tw htw => hm tw (hp.mem_iff.mpr htw), fun val => (hp.map _).sum_eq.symm.trans (hg val),
    fun φ => (hp.map _).sum_eq.symm.trans (hv φ)⟩

theorem sumWitnessF_mono {w w' : AW} (h : Extends w w') {D : List (Nat × Coef)} {x g : PDict} {v : EDict}
    (hw : SumWitnessF w D x g v) : SumWitnessF w' D x g v := by
  obtain ⟨pick, hm, hg, hv⟩ := hw
  exact ⟨pick, fun tw htw => ⟨h.pts _ _ (hm tw htw).1, (hm tw htw).2⟩, hg, hv⟩

theorem sumWitnessF_of_list {w : AW} {x g : PDict} {v : EDict} :
    ∀ (terms : List (Nat × Coef)), (terms.map (·.1)).Nodup → SumWitness w terms x g v →
      SumWitnessF w terms x g v := by
  intro terms hnd ⟨ws, hfa, hg, hv⟩
  -- a choice function that reproduces the paired list
  obtain ⟨pick, hm, rfl⟩ : ∃ pick : Nat → ATriple,
      (∀ tw ∈ terms, pick tw.1 ∈ (w.getF tw.1).pts ∧ AtPoint (pick tw.1) x) ∧ terms.map (fun tw => pick tw.1) = ws := by
    clear hg hv
    induction hfa with
    | nil => exact ⟨fun _ => ⟨[], [], []⟩, by simp, rfl⟩
    | @cons tw t terms' ws' hd _ ih =>
      rw [List.map_cons, List.nodup_cons] at hnd
      obtain ⟨pick, hm, hp⟩ := ih hnd.2
      have hne : ∀ tw' ∈ terms', tw'.1 ≠ tw.1 := fun tw' h' e => hnd.1 (e ▸ List.mem_map_of_mem h')
      refine ⟨fun k => if k = tw.1 then t else pick k, ?_, ?_⟩
      · intro tw' htw'
        rcases List.mem_cons.mp htw' with rfl | h'
        · simpa using hd
        · simpa [hne tw' h'] using hm tw' h'
      · simp only [List.map_cons, ↓reduceIte, ← hp, List.cons.injEq, true_and]
        exact List.map_congr_left fun tw' h' => by simp [hne tw' h']
  refine ⟨pick, hm, fun val => ?_, fun φ => ?_⟩
  · simpa [List.zipWith_map_right, List.zipWith_self] using hg val
  · simpa [List.zipWith_map_right, List.zipWith_self] using hv φ

theorem foldl_classifyStep (w : AW) (x : PDict) :
    ∀ (d : Dict Nat) (a0 a1 a2 : List (Nat × Coef)),
      d.foldl (classifyStep w x) (a0, a1, a2) =
        (a0 ++ d.filter (fun tw => (w.getF tw.1).reuse && (lookupTriple (w.getF tw.1).pts x).isSome),
         a1 ++ d.filter (fun tw => !(w.getF tw.1).reuse && (lookupTriple (w.getF tw.1).pts x).isSome),
         a2 ++ d.filter (fun tw => (lookupTriple (w.getF tw.1).pts x).isNone)) := by
  intro d
  induction d with
  | nil => simp
  | cons tw rest ih =>
    intro a0 a1 a2
    rw [List.foldl_cons]
    cases hl : lookupTriple (w.getF tw.1).pts x <;> cases hr : (w.getF tw.1).reuse <;>
      simp [classifyStep, hl, hr, ih]

/-- the need classification sorts the terms by two tests: is the term differentiable, is it evaluated at `x` -/
theorem classify_eq (w : AW) (d : Dict Nat) (x : PDict) :
    classify w d x =
      (d.filter (fun tw => (w.getF tw.1).reuse && (lookupTriple (w.getF tw.1).pts x).isSome),
       d.filter (fun tw => !(w.getF tw.1).reuse && (lookupTriple (w.getF tw.1).pts x).isSome),
       d.filter (fun tw => (lookupTriple (w.getF tw.1).pts x).isNone)) := by
  simpa [classify] using foldl_classifyStep w x d [] [] []

theorem mem_needNothing {w : AW} {d : Dict Nat} {x : PDict} {tw : Nat × Coef} :
    tw ∈ (classify w d x).1 ↔ tw ∈ d ∧ (w.getF tw.1).reuse = true ∧ ∃ t, lookupTriple (w.getF tw.1).pts x = some t := by
  simp [classify_eq, Option.isSome_iff_exists]

theorem mem_needGradient {w : AW} {d : Dict Nat} {x : PDict} {tw : Nat × Coef} :
    tw ∈ (classify w d x).2.1 ↔
      tw ∈ d ∧ (w.getF tw.1).reuse = false ∧ ∃ t, lookupTriple (w.getF tw.1).pts x = some t := by
  simp [classify_eq, Option.isSome_iff_exists]

theorem mem_needBoth {w : AW} {d : Dict Nat} {x : PDict} {tw : Nat × Coef} :
    tw ∈ (classify w d x).2.2 ↔ tw ∈ d ∧ lookupTriple (w.getF tw.1).pts x = none := by
  simp [classify_eq]

theorem needBoth_eq_nil_iff {w : AW} {d : Dict Nat} {x : PDict} :
    (classify w d x).2.2 = [] ↔ ∀ tw ∈ d, ∃ t, lookupTriple (w.getF tw.1).pts x = some t := by
  simp [classify_eq, List.filter_eq_nil_iff, Option.ne_none_iff_exists']

/-- the visit list `need_nothing ++ need_gradient_only ++ need_both` is a permutation of the
decomposition -/
theorem classify_perm (w : AW) (d : Dict Nat) (x : PDict) :
    ((classify w d x).1 ++ ((classify w d x).2.1 ++ (classify w d x).2.2)).Perm d := by
  rw [classify_eq, ← List.append_assoc]
  simp only [← List.filter_filter]
  refine ((List.filter_append_perm _ _).append_right _).trans ?_
  simpa using List.filter_append_perm (fun tw : Nat × Coef => (lookupTriple (w.getF tw.1).pts x).isSome) d

/-- the world just before the remainder loop of `add_point`: triplet recorded, own decomposition
pruned -/
def preLoop (w : AW) (f : Nat) (t : ATriple) : AW :=
  (w.record f t).setDecomp f (Dict.prune ((w.record f t).getF f).decomp)

/-- does some term still need a gradient or a value at the point? -/
def someTermNeeds (w : AW) (f : Nat) (t : ATriple) : Bool :=
  let w2 := preLoop w f t
  let c := classify w2 (Dict.prune ((w.record f t).getF f).decomp) (Dict.prune t.x)
  !(c.2.1 ++ c.2.2).isEmpty

theorem extends_preLoop (w : AW) (f : Nat) (t : ATriple) : Extends w (preLoop w f t) :=
  (extends_record w f t).trans (extends_setDecomp_prune _ f)

@[simp] theorem pts_preLoop (w : AW) (f g : Nat) (t : ATriple) :
    ((preLoop w f t).getF g).pts = ((w.record f t).getF g).pts := pts_setDecomp _ f g _

theorem pts_preLoop_of_ne (w : AW) {f g : Nat} (t : ATriple) (h : g ≠ f) : ((preLoop w f t).getF g).pts = (w.getF g).pts :=
  (pts_preLoop w f g t).trans (pts_record_of_ne w t h)

@[simp] theorem reuse_preLoop (w : AW) (f g : Nat) (t : ATriple) : ((preLoop w f t).getF g).reuse = (w.getF g).reuse := by
  simp [preLoop]

/-- the terms in the order in which `add_point` visits them -/
def visitOrder (w : AW) (f : Nat) (t : ATriple) : List (Nat × Coef) :=
  let c := classify (preLoop w f t) (Dict.prune (w.getF f).decomp) (Dict.prune t.x)
  c.1 ++ (c.2.1 ++ c.2.2)

theorem visitOrder_perm (w : AW) (f : Nat) (t : ATriple) : (visitOrder w f t).Perm (Dict.prune (w.getF f).decomp) :=
  classify_perm _ _ _

theorem visitOrder_terms {w : AW} {f : Nat} (t : ATriple)
    (hterms : ∀ tw ∈ Dict.prune (w.getF f).decomp, tw.1 < w.funs.length) :
    ∀ tw ∈ visitOrder w f t, tw.1 < (preLoop w f t).funs.length ∧ tw.2 ≠ 0 := fun tw htw =>
  have h := (visitOrder_perm w f t).mem_iff.mp htw
  ⟨(extends_preLoop w f t).len ▸ hterms tw h, Dict.prune_no_zero _ tw h⟩

theorem visitOrder_ne_nil {w : AW} {f : Nat} {t : ATriple} (h : someTermNeeds w f t = true) : visitOrder w f t ≠ [] := by
  intro hv
  simp [someTermNeeds, (List.append_eq_nil_iff.mp hv).2] at h

theorem addPointA_leaf (w : AW) (f : Nat) (t : ATriple) (hleaf : (w.getF f).isLeaf = true) :
    addPointA w f t = w.record f t := by
  simp [addPointA, hleaf]

theorem addPointA_composite (w : AW) (f : Nat) (t : ATriple) (hcomp : (w.getF f).isLeaf = false) :
    addPointA w f t =
      if someTermNeeds w f t then
        distribute (Dict.prune t.x) (preLoop w f t) (visitOrder w f t) (Dict.prune t.g) (Dict.prune t.v)
      else preLoop w f t := by
  unfold addPointA someTermNeeds visitOrder preLoop
  simp only [isLeaf_record, hcomp, Bool.false_eq_true, if_false, decomp_record, Bool.not_eq_true']
  -- both sides test the same list for emptiness, one of them negated
  generalize List.isEmpty _ = b
  cases b <;> rfl

theorem addPointA_cases (w : AW) (f : Nat) (t : ATriple) :
    addPointA w f t = w.record f t ∨ addPointA w f t = preLoop w f t ∨
    addPointA w f t = distribute (Dict.prune t.x) (preLoop w f t) (visitOrder w f t) (Dict.prune t.g) (Dict.prune t.v) := by
  obtain hleaf | hcomp := Bool.eq_false_or_eq_true (w.getF f).isLeaf
  · exact .inl (addPointA_leaf w f t hleaf)
  · rw [addPointA_composite w f t hcomp]
    split
    · exact .inr (.inr rfl)
    · exact .inr (.inl rfl)

theorem extends_record_addPointA (w : AW) (f : Nat) (t : ATriple) : Extends (w.record f t) (addPointA w f t) := by
  obtain e | e | e := addPointA_cases w f t <;> rw [e]
  · exact Extends.refl _
  · exact extends_setDecomp_prune _ f
  · exact (extends_setDecomp_prune _ f).trans (extends_distribute _ _ _ _ _)

theorem extends_addPointA (w : AW) (f : Nat) (t : ATriple) : Extends w (addPointA w f t) :=
  (extends_record w f t).trans (extends_record_addPointA w f t)

theorem addPointA_records (w : AW) (f : Nat) (t : ATriple) (hf : f < w.funs.length) :
    (⟨Dict.prune t.x, Dict.prune t.g, Dict.prune t.v⟩ : ATriple) ∈ ((addPointA w f t).getF f).pts :=
  (extends_record_addPointA w f t).pts f _ (mem_record_self w f t hf)

/-- **`add_point` on a composite function**: the world only grows and stays well formed; and
whenever some term still needs something, every term of the (pruned) decomposition owns a
triplet at the point such that the weighted sums of the terms' gradients and values are exactly
the gradient and value of the triplet being added. -/
theorem addPointA_composite_spec (w : AW) (f : Nat) (t : ATriple) (hw : WfW w)
    (hx : (Dict.keys t.x).Nodup) (hg : (Dict.keys t.g).Nodup) (hv : (Dict.keys t.v).Nodup)
    (hcomp : (w.getF f).isLeaf = false)
    (hterms : ∀ tw ∈ Dict.prune (w.getF f).decomp, tw.1 < w.funs.length)
    (hnd : ((Dict.prune (w.getF f).decomp).map (·.1)).Nodup) :
    Extends w (addPointA w f t) ∧ WfW (addPointA w f t) ∧
    (someTermNeeds w f t = true →
      SumWitnessF (addPointA w f t) (Dict.prune (w.getF f).decomp)
        (Dict.prune t.x) (Dict.prune t.g) (Dict.prune t.v)) := by
  have hwf : WfW (preLoop w f t) := wfW_setDecomp _ f _ (wfW_record w f t hw hx hg hv)
  have hperm := visitOrder_perm w f t
  rw [addPointA_composite w f t hcomp]
  split
  · next hneed =>
    obtain ⟨he, hwf', hsw⟩ := distribute_spec (Dict.prune t.x) (Dict.nodup_keys_prune _ hx) _ (preLoop w f t)
      (Dict.prune t.g) (Dict.prune t.v) (visitOrder_ne_nil hneed) (visitOrder_terms t hterms)
      hwf (Dict.nodup_keys_prune _ hg) (Dict.nodup_keys_prune _ hv)
    exact ⟨(extends_preLoop w f t).trans he, hwf', fun _ =>
      sumWitnessF_perm hperm (sumWitnessF_of_list _ ((hperm.map _).nodup_iff.mpr hnd) hsw)⟩
  · next hneed => exact ⟨extends_preLoop w f t, hwf, fun h => absurd h hneed⟩

end Pepit

#print axioms Pepit.sumWitnessF_of_list
#print axioms Pepit.classify_perm
#print axioms Pepit.addPointA_composite_spec
