import PepitModel.Cvx

/-!
# `_recover_dual_values` attaches to every sent item the dual of the solver constraint emitted
for it (property C01, index routing), for every list of items and every LMI size.
-/

theorem length_psdEntries (id n : Nat) : (psdEntries id n).length = n * n := by
  simp only [psdEntries, List.length_flatMap, List.length_map, List.length_range, List.map_const', List.sum_replicate_nat]

theorem mem_psdEntries {id n : Nat} {c : SolverCon} :
    c ∈ psdEntries id n ↔ ∃ i < n, ∃ j < n, c = .psdEntry id i j := by
  simp [psdEntries, eq_comm]

theorem mem_emit {items : List Item} {c : SolverCon} :
    c ∈ emit items ↔ c = .gram ∨ ∃ it ∈ items, c ∈ emitItem it := by
  simp [emit]

theorem length_emitItem (it : Item) :
    (emitItem it).length = match it with | .cons _ => 1 | .psd _ n => 1 + n * n := by
  cases it with
  | cons id => rfl
  | psd id n => rw [emitItem, List.length_cons, length_psdEntries, Nat.add_comm]

theorem emitItem_eq_cons (it : Item) : emitItem it = mainOf it :: (emitItem it).tail := by
  cases it <;> rfl

theorem recoverFrom_cons {δ : Type} (duals : List δ) (counter : Nat) (it : Item) (rest : List Item) :
    recoverFrom duals counter (it :: rest) = (do
      let d ← duals[counter]?
      let ds ← recoverFrom duals (counter + (emitItem it).length) rest
      pure (d :: ds)) := by
  cases it with
  | cons id => rfl
  | psd id n => rw [length_emitItem, ← Nat.add_assoc]; rfl

/-- the walk over the items, started anywhere: `pre` stands for the duals already passed, so that the counter is
`pre.length` -/
theorem recoverFrom_spec {δ : Type} (d : SolverCon → δ) :
    ∀ (items : List Item) (pre : List δ),
      recoverFrom (pre ++ (items.flatMap emitItem).map d) pre.length items
        = some (items.map (fun it => d (mainOf it)))
  | [], _ => rfl
  | it :: rest, pre => by
    -- after this item the walk stands behind `pre` and everything the item emitted
    have ih := recoverFrom_spec d rest (pre ++ (emitItem it).map d)
    rw [List.length_append, List.length_map, List.append_assoc, ← List.map_append, ← List.flatMap_cons] at ih
    rw [recoverFrom_cons, ih, List.flatMap_cons, emitItem_eq_cons]
    simp

/-- **Order-preserving dual routing**: for every list of sent items (any number of scalar
constraints and LMIs of any sizes, in any order) and every assignment `d` of duals to the
solver's constraints, `_recover_dual_values` returns the residual followed, for each item, by
the dual of *its own* main constraint — the `n²` entry equalities of every LMI are skipped
exactly. -/
theorem recover_spec {δ : Type} (d : SolverCon → δ) (items : List Item) :
    recover ((emit items).map d) items = some (d .gram :: items.map (fun it => d (mainOf it))) := by
  have h : recoverFrom (d .gram :: (items.flatMap emitItem).map d) 1 items = _ :=
    recoverFrom_spec d items [d .gram]
  rw [recover, emit, List.map_cons, h]
  rfl

#print axioms recover_spec
