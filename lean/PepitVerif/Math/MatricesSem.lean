import PepitVerif.Math.DictEqv
import PepitModel.Matrices
import Mathlib.Algebra.BigOperators.Group.Finset.Basic
import Mathlib.Algebra.BigOperators.Ring.Finset

/-!
# `expression_to_matrices` denotes the expression (property C05, dense part)

`EDict.evalGF G F e` is what the SDP sees of an expression: `Dict.denM` at the valuation `keyValGF` that reads inner products
off a Gram matrix `G` and function values off `F` (C01, C02, C05, C11 are stated with it).
A duplicate-free dictionary is its coefficient function `Dict.coefOf` on its key set: every sum
over the items is a sum over the keys (`Dict.sum_eq_sum_keys`), and a loop that assigns `W[key]`
item by item computes `coefOf` (`assignLast_eq_coefOf`).  `dense_correct` then is additivity of the dense value in the
weight function (`evalDenseA_add`), the value of a weight that sits at one key (`evalDenseA_single`), and induction on
the dictionary; the sparse translator (`Math/SparseSem`) starts from the sum over the keys.
-/

open Finset

theorem List.sum_map_range {M : Type*} [AddCommMonoid M] (n : ℕ) (f : ℕ → M) :
    ((List.range n).map f).sum = ∑ i ∈ Finset.range n, f i := by
  rw [← List.toFinset_range, List.sum_toFinset _ List.nodup_range]

theorem List.sum_map_flatMap {α β M : Type*} [AddMonoid M] (l : List α) (row : α → List β) (f : β → M) :
    ((l.flatMap row).map f).sum = (l.map fun a => ((row a).map f).sum).sum := by
  rw [List.map_flatMap, List.flatMap_def, List.sum_flatten, List.map_map]; rfl

namespace Dict
variable {κ : Type} [DecidableEq κ]

theorem sum_eq_sum_keys {M : Type*} [AddCommMonoid M] (d : Dict κ) (hnd : (keys d).Nodup) (h : κ → Coef → M) :
    (d.map (fun kc => h kc.1 kc.2)).sum = ∑ k ∈ (keys d).toFinset, h k (coefOf d k) := by
  rw [List.sum_toFinset _ hnd, keys, List.map_map]
  congr 1
  exact List.map_congr_left fun kc hkc => by rw [Function.comp_apply, coefOf_of_mem hnd kc hkc]

end Dict

/-- value of a key at the Gram level -/
def keyValGF (G : Nat → Nat → ℝ) (F : Nat → ℝ) : EKey → ℝ
  | .f i => F i
  | .ip i j => G i j
  | .one => 1

/-- what the SDP sees of an expression -/
noncomputable def EDict.evalGF (G : Nat → Nat → ℝ) (F : Nat → ℝ) (e : EDict) : ℝ := Dict.denM (keyValGF G F) e

theorem EDict.evalGF_add (G : Nat → Nat → ℝ) (F : Nat → ℝ) (a b : EDict) (hb : (Dict.keys b).Nodup) :
    EDict.evalGF G F (EDict.add a b) = EDict.evalGF G F a + EDict.evalGF G F b := Dict.denM_add _ a b hb

theorem EDict.evalGF_sub (G : Nat → Nat → ℝ) (F : Nat → ℝ) (a b : EDict) (hb : (Dict.keys b).Nodup) :
    EDict.evalGF G F (EDict.sub a b) = EDict.evalGF G F a - EDict.evalGF G F b := Dict.denM_sub _ a b hb

theorem EDict.evalGF_smul (G : Nat → Nat → ℝ) (F : Nat → ℝ) (c : Coef) (a : EDict) :
    EDict.evalGF G F (EDict.smul c a) = ((c : ℚ) : ℝ) * EDict.evalGF G F a := Dict.denM_scale _ a c

theorem EDict.evalGF_eq_sum_keys (G : Nat → Nat → ℝ) (F : Nat → ℝ) (e : EDict) (hnd : (Dict.keys e).Nodup) :
    EDict.evalGF G F e = ∑ k ∈ (Dict.keys e).toFinset, ((Dict.coefOf e k : ℚ) : ℝ) * keyValGF G F k :=
  Dict.sum_eq_sum_keys e hnd fun k c => ((c : ℚ) : ℝ) * keyValGF G F k

theorem EKey.swap_swap (k : EKey) : k.swap.swap = k := by cases k <;> rfl

theorem keyValGF_swap (G : Nat → Nat → ℝ) (F : Nat → ℝ) (hG : ∀ i j, G i j = G j i) (k : EKey) :
    keyValGF G F k.swap = keyValGF G F k := by
  cases k with
  | ip i j => exact hG j i
  | _ => rfl

/-- `Tr(Gw G) + Fw·F + cons` for weights given as a function of the key -/
noncomputable def evalDenseA (n m : Nat) (G : Nat → Nat → ℝ) (F : Nat → ℝ) (A : EKey → ℝ) : ℝ :=
  (∑ i ∈ range n, ∑ j ∈ range n, ((A (.ip i j) + A (.ip j i)) / 2) * G i j)
    + (∑ i ∈ range m, A (.f i) * F i) + A .one

/-- value of the dense output of the translator -/
noncomputable def evalDense (n m : Nat) (G : Nat → Nat → ℝ) (F : Nat → ℝ) (D : DenseW) : ℝ :=
  (∑ i ∈ range n, ∑ j ∈ range n, ((D.G i j : ℚ) : ℝ) * G i j)
    + (∑ i ∈ range m, ((D.F i : ℚ) : ℝ) * F i) + ((D.c : ℚ) : ℝ)

theorem evalDenseA_add (n m : Nat) (G : Nat → Nat → ℝ) (F : Nat → ℝ) (A B : EKey → ℝ) :
    evalDenseA n m G F (fun k => A k + B k) = evalDenseA n m G F A + evalDenseA n m G F B := by
  unfold evalDenseA
  simp only [add_div, add_mul, sum_add_distrib]
  ring

def EKey.inRange (n m : Nat) : EKey → Prop
  | .f i => i < m
  | .ip i j => i < n ∧ j < n
  | .one => True

theorem evalDenseA_single (n m : Nat) (G : Nat → Nat → ℝ) (F : Nat → ℝ)
    (hG : ∀ i j, G i j = G j i) (k : EKey) (hk : k.inRange n m) (c : ℝ) :
    evalDenseA n m G F (fun k' => if k = k' then c else 0) = c * keyValGF G F k := by
  unfold evalDenseA
  cases k with
  | f a => simp [keyValGF, show a < m from hk]
  | one => simp [keyValGF]
  | ip a b =>
    obtain ⟨ha, hb⟩ := hk
    -- the two halves pick `G a b / 2` and `G b a / 2`
    simp [add_div, add_mul, sum_add_distrib, ite_and, ite_div, ite_mul, sum_ite_irrel, ha, hb, keyValGF, hG b a]
    ring

theorem foldl_assign_of_not_mem (k : EKey) (t : EDict) (a : Coef) (h : k ∉ Dict.keys t) :
    t.foldl (fun acc kc => if kc.1 = k then kc.2 else acc) a = a := by
  refine List.foldlRecOn (motive := (· = a)) t _ rfl fun acc hacc kc hkc => ?_
  have hne : kc.1 ≠ k := fun e => h (e ▸ List.mem_map_of_mem (f := Prod.fst) hkc)
  rw [if_neg hne, hacc]

theorem assignLast_eq_coefOf (k : EKey) : ∀ e : EDict, (Dict.keys e).Nodup → assignLast e k = Dict.coefOf e k
  | [], _ => rfl
  | (k', c) :: t, hnd => by
    rw [Dict.keys_cons, List.nodup_cons] at hnd
    rw [Dict.coefOf_cons, assignLast, List.foldl_cons]
    by_cases h : k' = k
    · rw [if_pos h, if_pos h]; exact foldl_assign_of_not_mem k t c (h ▸ hnd.1)
    · rw [if_neg h, if_neg h]; exact assignLast_eq_coefOf k t hnd.2

theorem evalDenseA_coefOf (n m : Nat) (G : Nat → Nat → ℝ) (F : Nat → ℝ) (hG : ∀ i j, G i j = G j i) :
    ∀ e : EDict, (Dict.keys e).Nodup → (∀ k ∈ Dict.keys e, EKey.inRange n m k) →
      evalDenseA n m G F (fun k => ((Dict.coefOf e k : ℚ) : ℝ)) = EDict.evalGF G F e
  | [], _, _ => by simp [evalDenseA, Dict.coefOf, Dict.get?, EDict.evalGF]
  | (k, c) :: t, hnd, hr => by
    rw [Dict.keys_cons, List.nodup_cons] at hnd
    rw [Dict.keys_cons, List.forall_mem_cons] at hr
    -- the coefficient function of `(k, c) :: t` is that of `t` plus `c` at `k`
    have hfun : (fun k' => ((Dict.coefOf ((k, c) :: t) k' : ℚ) : ℝ))
        = fun k' => ((Dict.coefOf t k' : ℚ) : ℝ) + (if k = k' then ((c : ℚ) : ℝ) else 0) := by
      funext k'
      rw [Dict.coefOf_cons]
      split
      · next h => rw [← h, Dict.coefOf_of_not_mem hnd.1, Rat.cast_zero, zero_add]
      · rw [add_zero]
    rw [hfun, evalDenseA_add, evalDenseA_single n m G F hG k hr.1, evalDenseA_coefOf n m G F hG t hnd.2 hr.2,
      EDict.evalGF, EDict.evalGF, Dict.denM_cons, smul_eq_mul, add_comm]

/-- **`expression_to_matrices` is faithful**: for every duplicate-free decomposition whose
indices are in range and every symmetric `G`, `Tr(Gw G) + Fw·F + cons` is the expression. -/
theorem dense_correct (n m : Nat) (G : Nat → Nat → ℝ) (F : Nat → ℝ) (hG : ∀ i j, G i j = G j i)
    (e : EDict) (hnd : (Dict.keys e).Nodup) (hr : ∀ k ∈ Dict.keys e, EKey.inRange n m k) :
    evalDense n m G F (toDense e) = EDict.evalGF G F e := by
  rw [← evalDenseA_coefOf n m G F hG e hnd hr]
  simp only [evalDense, evalDenseA, toDense, assignLast_eq_coefOf _ e hnd]
  push_cast
  rfl

#print axioms dense_correct
