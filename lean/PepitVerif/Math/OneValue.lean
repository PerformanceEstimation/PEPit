import PepitVerif.Math.OracleFresh
import PepitVerif.Math.DictEqv

/-!
# One value per point, one gradient per point of a differentiable function

Invariants of the oracle bookkeeping over every sequence of calls (property C07, first sentence):

* `OneValue`: two triplets recorded on the same function at the same point carry the same value
  (same denotation under every valuation of the leaf expressions);
* `OneGrad`: a function declared differentiable (`reuse_gradient`) never holds two triplets at the
  same point (so it returns one gradient per point).

"Same point" is equality of the coefficient maps (`SamePt`), which for the stored (duplicate-free)
dictionaries is exactly Python's `dict.__eq__` used by `_is_already_evaluated_on_point`.
-/

namespace Pepit

/-- the two dictionaries give every leaf point the same coefficient -/
def SamePt (a b : PDict) : Prop := ∀ k, Dict.get? a k = Dict.get? b k

theorem SamePt.refl (a : PDict) : SamePt a a := fun _ => rfl
theorem SamePt.symm {a b : PDict} (h : SamePt a b) : SamePt b a := fun k => (h k).symm
theorem SamePt.trans {a b c : PDict} (h1 : SamePt a b) (h2 : SamePt b c) : SamePt a c := fun k => (h1 k).trans (h2 k)

def OneValue (w : AW) : Prop :=
  ∀ f t1 t2, t1 ∈ (w.getF f).pts → t2 ∈ (w.getF f).pts → SamePt t1.x t2.x → ∀ φ, vden φ t1.v = vden φ t2.v

def OneGrad (w : AW) : Prop :=
  ∀ f, (w.getF f).reuse = true → (w.getF f).pts.Pairwise (fun t1 t2 => ¬ SamePt t1.x t2.x)

theorem samePt_of_atPoint {t : ATriple} {x : PDict} (ht : (Dict.keys t.x).Nodup) (hx : (Dict.keys x).Nodup)
    (h : AtPoint t x) : SamePt t.x (Dict.prune x) := by
  rcases h with h | h
  · exact (Dict.eqv_iff _ _ ht (Dict.nodup_keys_prune x hx)).mp h
  · rw [h]; exact SamePt.refl _

theorem prune_eq_self_of_samePt {a b : PDict} (ha : (Dict.keys a).Nodup) (h : SamePt a (Dict.prune b)) :
    Dict.prune a = a :=
  Dict.prune_eq_self_iff.mpr fun kc hkc =>
    Dict.prune_no_zero b _ (Dict.mem_of_get? (h kc.1 ▸ Dict.get?_of_mem_nodup ha kc hkc))

theorem lookup_some_spec {w : AW} (hw : WfW w) {f : Nat} {x : PDict} (hx : (Dict.keys x).Nodup) {t : ATriple}
    (h : lookupTriple (w.getF f).pts x = some t) : t ∈ (w.getF f).pts ∧ SamePt t.x (Dict.prune x) :=
  have ⟨hm, he⟩ := lookupTriple_some h
  ⟨hm, samePt_of_atPoint (hw f t hm).1 hx (Or.inl he)⟩

theorem lookup_none_spec {w : AW} (hw : WfW w) {f : Nat} {x : PDict} (hx : (Dict.keys x).Nodup)
    (h : lookupTriple (w.getF f).pts x = none) : ∀ t ∈ (w.getF f).pts, ¬ SamePt t.x (Dict.prune x) :=
  fun t ht hs => lookupTriple_none.mp h t ht ((Dict.eqv_iff _ _ (hw f t ht).1 (Dict.nodup_keys_prune x hx)).mpr hs)

theorem OneValue.eq_lookup {w : AW} (hv : OneValue w) (hw : WfW w) {f : Nat} {x : PDict} (hx : (Dict.keys x).Nodup)
    {t t2 : ATriple} (hl : lookupTriple (w.getF f).pts x = some t) (ht2 : t2 ∈ (w.getF f).pts)
    (hs : SamePt t2.x (Dict.prune x)) (φ : EKey → ℝ) : vden φ t2.v = vden φ t.v :=
  have ⟨htm, hts⟩ := lookup_some_spec hw hx hl
  hv f t2 t ht2 htm (hs.trans hts.symm) φ

theorem oneValue_record (w : AW) (f : Nat) (t : ATriple) (h : OneValue w)
    (hnew : ∀ t2 ∈ (w.getF f).pts, SamePt t2.x (Dict.prune t.x) → ∀ φ, vden φ t2.v = vden φ t.v) :
    OneValue (w.record f t) := by
  intro g t1 t2 h1 h2 hs φ
  by_cases hg : g = f ∧ f < w.funs.length
  · obtain ⟨rfl, hf⟩ := hg
    rw [pts_record_self w g t hf, List.mem_append, List.mem_singleton] at h1 h2
    rcases h1 with a1 | rfl <;> rcases h2 with a2 | rfl
    · exact h g t1 t2 a1 a2 hs φ
    · rw [vden_prune]; exact hnew t1 a1 hs φ
    · rw [vden_prune]; exact (hnew t2 a2 hs.symm φ).symm
    · rfl
  · rw [pts_record, if_neg hg] at h1 h2; exact h g t1 t2 h1 h2 hs φ

theorem oneGrad_record (w : AW) (f : Nat) (t : ATriple) (h : OneGrad w)
    (hnew : (w.getF f).reuse = true → ∀ t2 ∈ (w.getF f).pts, ¬ SamePt t2.x (Dict.prune t.x)) :
    OneGrad (w.record f t) := by
  intro g hr
  rw [reuse_record] at hr
  rw [pts_record]
  split
  · next hg =>
    obtain ⟨rfl, _⟩ := hg
    exact List.pairwise_append.mpr ⟨h g hr, List.pairwise_singleton _ _, fun a ha b hb => by
      rw [List.mem_singleton.mp hb]; exact hnew hr a ha⟩
  · exact h g hr

theorem oneValue_counters (w : AW) (a b : Nat) (h : OneValue w) : OneValue { w with nP := a, nE := b } := h

theorem oneGrad_counters (w : AW) (a b : Nat) (h : OneGrad w) : OneGrad { w with nP := a, nE := b } := h

theorem oneValue_setDecomp (w : AW) (f : Nat) (d : Dict Nat) (h : OneValue w) : OneValue (w.setDecomp f d) :=
  fun g t1 t2 h1 h2 => h g t1 t2 (pts_setDecomp w f g d ▸ h1) (pts_setDecomp w f g d ▸ h2)

theorem oneGrad_setDecomp (w : AW) (f : Nat) (d : Dict Nat) (h : OneGrad w) : OneGrad (w.setDecomp f d) :=
  fun g hr => pts_setDecomp w f g d ▸ h g (reuse_setDecomp w f g d ▸ hr)

/-- what `oracle` records on `f` at `x` (the stored value, on a function that is not differentiable; anything, where nothing
is stored) meets the two conditions under which `record` keeps one value and one gradient per point -/
theorem agrees_of_lookup {w : AW} {f : Nat} {x : PDict} {v : EDict} (hw : WfW w) (hx : (Dict.keys x).Nodup)
    (hv : OneValue w)
    (h : (∃ t, lookupTriple (w.getF f).pts x = some t ∧ (w.getF f).reuse = false ∧ v = t.v) ∨
      lookupTriple (w.getF f).pts x = none) :
    (∀ t2 ∈ (w.getF f).pts, SamePt t2.x (Dict.prune x) → ∀ φ, vden φ t2.v = vden φ v) ∧
    ((w.getF f).reuse = true → ∀ t2 ∈ (w.getF f).pts, ¬ SamePt t2.x (Dict.prune x)) := by
  rcases h with ⟨t, hl, hr, rfl⟩ | hl
  · exact ⟨fun t2 ht2 hs => hv.eq_lookup hw hx hl ht2 hs, fun h => by rw [hr] at h; cases h⟩
  · exact ⟨fun t2 ht2 hs => absurd hs (lookup_none_spec hw hx hl t2 ht2), fun _ => lookup_none_spec hw hx hl⟩

theorem oracleLeafA_one (w : AW) (f : Nat) (x : PDict) (hw : WfW w)
    (hx : (Dict.keys x).Nodup) (hv : OneValue w) (hg : OneGrad w) :
    OneValue (oracleLeafA w f x).1 ∧ OneGrad (oracleLeafA w f x).1 := by
  rcases oracleLeafA_cases w f x with ⟨t, _, _, e⟩ | ⟨b, v, e, hcase⟩ <;> rw [e]
  · exact ⟨hv, hg⟩
  · obtain ⟨h1, h1g⟩ := agrees_of_lookup hw hx hv (hcase.imp_right And.left)
    exact ⟨oneValue_record _ f _ (oneValue_counters w _ b hv) h1, oneGrad_record _ f _ (oneGrad_counters w _ b hg) h1g⟩

/-- **the remainder loop keeps one value and one gradient per point.**  Every term but the last goes through its own
oracle, which looks the point up; the last one is recorded without a lookup.  So for one value the caller owes: if the
last term is already evaluated at `x`, all terms are and the remainder `fl` is their weighted sum (then what is recorded
is the stored value); and for one gradient: a differentiable last term is not yet evaluated at `x`. -/
theorem distribute_one (x : PDict) (hx : (Dict.keys x).Nodup) :
    ∀ (terms : List (Nat × Coef)) (w : AW) (gl : PDict) (fl : EDict),
      (terms.map (·.1)).Nodup → (∀ tw ∈ terms, tw.1 < w.funs.length ∧ tw.2 ≠ 0) → WfW w →
      (Dict.keys gl).Nodup → (Dict.keys fl).Nodup →
      OneValue w → OneGrad w →
      (∀ last, terms.getLast? = some last → (∃ t, lookupTriple (w.getF last.1).pts x = some t) →
          (∀ tw ∈ terms, ∃ t, lookupTriple (w.getF tw.1).pts x = some t) ∧
          ∀ φ, vden φ fl = (terms.map (fun tw => ((tw.2 : ℚ) : ℝ) * vden φ (firstAt w x tw.1).v)).sum) →
      (∀ last, terms.getLast? = some last → (w.getF last.1).reuse = true →
          lookupTriple (w.getF last.1).pts x = none) →
      OneValue (distribute x w terms gl fl) ∧ OneGrad (distribute x w terms gl fl) := by
  intro terms
  induction terms with
  | nil => intro w gl fl _ _ _ _ _ hv hg _ _; exact ⟨hv, hg⟩
  | cons hd rest ih =>
    obtain ⟨fn, wt⟩ := hd
    intro w gl fl hnd hterms hw hgl hfl hv hg hval hgrad
    obtain ⟨(hfn : fn < _), (hwt : wt ≠ 0)⟩ := hterms (fn, wt) List.mem_cons_self
    cases rest with
    | nil =>
      simp only [distribute]
      refine ⟨oneValue_record w fn _ hv fun t2 ht2 hs φ => ?_, oneGrad_record w fn _ hg fun hr t2 ht2 =>
        lookup_none_spec hw hx (hgrad (fn, wt) rfl hr) t2 ht2⟩
      -- the term is already evaluated at the point: the remainder is `wt` times the stored value
      obtain ⟨t', ht'⟩ := Option.ne_none_iff_exists'.mp fun h => lookup_none_spec hw hx h t2 ht2 hs
      have h2 := (hval (fn, wt) rfl ⟨t', ht'⟩).2 φ
      simp only [List.map_cons, List.map_nil, List.sum_cons, List.sum_nil, add_zero, firstAt_of_lookup ht'] at h2
      rw [hv.eq_lookup hw hx ht' ht2 hs φ]
      have hwt' : ((wt : ℚ) : ℝ) ≠ 0 := by exact_mod_cast hwt
      exact mul_left_cancel₀ hwt' ((vden_div φ fl wt hwt).trans h2).symm
    | cons hd2 rest2 =>
      simp only [distribute]
      obtain ⟨hext, hwf, _, hvn, _⟩ := oracleLeafA_spec w fn x hfn hw hx
      obtain ⟨hv1, hg1⟩ := oracleLeafA_one w fn x hw hx hv hg
      rw [List.map_cons, List.nodup_cons] at hnd
      -- this oracle call leaves the triplet lists of the remaining terms alone
      have hpts : ∀ tw ∈ hd2 :: rest2, ((oracleLeafA w fn x).1.getF tw.1).pts = (w.getF tw.1).pts :=
        fun tw htw => pts_oracleLeafA_of_ne w x fun e => hnd.1 (e ▸ List.mem_map_of_mem (f := (·.1)) htw)
      have hlast : ∀ last, (hd2 :: rest2).getLast? = some last →
          ((fn, wt) :: hd2 :: rest2).getLast? = some last ∧ last ∈ hd2 :: rest2 :=
        fun last h => ⟨List.getLast?_cons_cons.trans h, List.mem_of_getLast? h⟩
      refine ih _ _ _ hnd.2 (fun tw htw => hext.len ▸ hterms tw (List.mem_cons_of_mem _ htw)) hwf
        (PDict.wf_sub _ _ hgl) (EDict.wf_sub _ _ hfl) hv1 hg1 (fun last hl hex => ?_) (fun last hl hre => ?_)
      · obtain ⟨hl', hlm⟩ := hlast last hl
        rw [hpts last hlm] at hex
        obtain ⟨hall, hsum⟩ := hval last hl' hex
        obtain ⟨t, ht⟩ := hall (fn, wt) List.mem_cons_self
        refine ⟨fun tw htw => by rw [hpts tw htw]; exact hall tw (List.mem_cons_of_mem _ htw), fun φ => ?_⟩
        have hrest : (hd2 :: rest2).map (fun tw => ((tw.2 : ℚ) : ℝ) * vden φ (firstAt (oracleLeafA w fn x).1 x tw.1).v)
            = (hd2 :: rest2).map (fun tw => ((tw.2 : ℚ) : ℝ) * vden φ (firstAt w x tw.1).v) :=
          List.map_congr_left fun tw htw => by rw [firstAt_congr x (hpts tw htw)]
        rw [hrest, vden_sub φ fl _ (EDict.wf_smul wt _ hvn), vden_smul, hsum φ, oracleLeafA_val_of_some w fn x t ht,
          List.map_cons, List.sum_cons, firstAt_of_lookup ht]
        ring
      · obtain ⟨hl', hlm⟩ := hlast last hl
        rw [hpts last hlm]
        exact hgrad last hl' (by rwa [← (hext.flags last.1).2.1])

def ClassOK (w : AW) (x : PDict) (acc : List (Nat × Coef) × List (Nat × Coef) × List (Nat × Coef)) : Prop :=
  (∀ tw ∈ acc.1, (∃ t, lookupTriple (w.getF tw.1).pts x = some t) ∧ (w.getF tw.1).reuse = true) ∧
  (∀ tw ∈ acc.2.1, (∃ t, lookupTriple (w.getF tw.1).pts x = some t) ∧ (w.getF tw.1).reuse = false) ∧
  (∀ tw ∈ acc.2.2, lookupTriple (w.getF tw.1).pts x = none)

theorem classify_ok (w : AW) (d : Dict Nat) (x : PDict) : ClassOK w x (classify w d x) :=
  ⟨fun _ h => ⟨(mem_needNothing.mp h).2.2, (mem_needNothing.mp h).2.1⟩,
    fun _ h => ⟨(mem_needGradient.mp h).2.2, (mem_needGradient.mp h).2.1⟩, fun _ h => (mem_needBoth.mp h).2⟩

theorem getLast?_mem_right {α : Type*} {a b : List α} {l : α} (hb : b ≠ []) (h : (a ++ b).getLast? = some l) : l ∈ b := by
  rw [List.getLast?_append_of_ne_nil _ hb] at h
  exact List.mem_of_getLast? h

/-- the term that receives the remainder needs something: it is not evaluated at the point, or it is not differentiable
and no term lacks a value there -/
theorem last_visited_needs {w : AW} {f : Nat} (t : ATriple)
    (hself : ∀ tw ∈ Dict.prune (w.getF f).decomp, tw.1 ≠ f) (hneed : someTermNeeds w f t = true) {last : Nat × Coef}
    (hl : (visitOrder w f t).getLast? = some last) :
    lookupTriple (w.getF last.1).pts (Dict.prune t.x) = none ∨
    ((w.getF last.1).reuse = false ∧
      ∀ tw ∈ Dict.prune (w.getF f).decomp, ∃ t', lookupTriple (w.getF tw.1).pts (Dict.prune t.x) = some t') := by
  rw [visitOrder_eq w f t hself] at hl
  by_cases h2 : (classify w (Dict.prune (w.getF f).decomp) (Dict.prune t.x)).2.2 = []
  · have h1 : (classify w (Dict.prune (w.getF f).decomp) (Dict.prune t.x)).2.1 ≠ [] := fun h1 => by
      rw [(someTermNeeds_eq_false_iff t hself).mpr ⟨h1, h2⟩] at hneed; cases hneed
    rw [h2, List.append_nil] at hl
    exact Or.inr ⟨(mem_needGradient.mp (getLast?_mem_right h1 hl)).2.1, needBoth_eq_nil_iff.mp h2⟩
  · rw [← List.append_assoc] at hl
    exact Or.inl (mem_needBoth.mp (getLast?_mem_right h2 hl)).2

/-- **`add_point` keeps one value per point and one gradient per point of a differentiable function**,
provided the triplet being added agrees with what is already recorded: (H1) its value is the value
already recorded on `f` at that point, if any; (H1g) a differentiable `f` is not yet evaluated there;
(H2) when every term is already evaluated at the point, its value is the weighted sum of the terms'
values. -/
theorem addPointA_one (w : AW) (f : Nat) (t : ATriple) (hi : OInv w) (hf : f < w.funs.length)
    (hx : (Dict.keys t.x).Nodup) (hg : (Dict.keys t.g).Nodup) (hvk : (Dict.keys t.v).Nodup)
    (hv : OneValue w) (hgr : OneGrad w)
    (H1 : ∀ t2 ∈ (w.getF f).pts, SamePt t2.x (Dict.prune t.x) → ∀ φ, vden φ t2.v = vden φ t.v)
    (H1g : (w.getF f).reuse = true → ∀ t2 ∈ (w.getF f).pts, ¬ SamePt t2.x (Dict.prune t.x))
    (H2 : (w.getF f).isLeaf = false →
      (∀ tw ∈ Dict.prune (w.getF f).decomp, ∃ t', lookupTriple (w.getF tw.1).pts (Dict.prune t.x) = some t') →
      ∀ φ, vden φ t.v = ((Dict.prune (w.getF f).decomp).map
        (fun tw => ((tw.2 : ℚ) : ℝ) * vden φ (firstAt w (Dict.prune t.x) tw.1).v)).sum) :
    OneValue (addPointA w f t) ∧ OneGrad (addPointA w f t) := by
  obtain ⟨hw, hs, _⟩ := hi
  have hv1 : OneValue (w.record f t) := oneValue_record w f t hv H1
  have hg1 : OneGrad (w.record f t) := oneGrad_record w f t hgr H1g
  obtain hleaf | hcomp := Bool.eq_false_or_eq_true (w.getF f).isLeaf
  · rw [addPointA_leaf w f t hleaf]; exact ⟨hv1, hg1⟩
  obtain ⟨hterms, hnd, _⟩ := hs f hf hcomp
  have hself := hs.ne_self hf hcomp
  have hv2 : OneValue (preLoop w f t) := oneValue_setDecomp _ _ _ hv1
  have hg2 : OneGrad (preLoop w f t) := oneGrad_setDecomp _ _ _ hg1
  rw [addPointA_composite w f t hcomp]
  split
  swap
  · exact ⟨hv2, hg2⟩
  next hneed =>
  have hperm := visitOrder_perm w f t
  -- the terms stand in `preLoop w f t` as in `w`
  have hpts : ∀ tw ∈ visitOrder w f t, ((preLoop w f t).getF tw.1).pts = (w.getF tw.1).pts :=
    fun tw htw => pts_preLoop_of_ne w t (hself tw (hperm.mem_iff.mp htw))
  refine distribute_one (Dict.prune t.x) (Dict.nodup_keys_prune _ hx) _ (preLoop w f t) _ _
    ((hperm.map _).nodup_iff.mpr hnd) (visitOrder_terms t fun tw htw => (hterms tw htw).1)
    (wfW_setDecomp _ f _ (wfW_record w f t hw hx hg hvk)) (Dict.nodup_keys_prune _ hg) (Dict.nodup_keys_prune _ hvk) hv2 hg2
    (fun last hl hex => ?_) (fun last hl hre => ?_)
  · -- values: the last term is evaluated, so every term is, and `H2` applies
    rw [hpts last (List.mem_of_getLast? hl)] at hex
    obtain hnone | ⟨_, hall⟩ := last_visited_needs t hself hneed hl
    · rw [hnone] at hex; obtain ⟨_, h⟩ := hex; cases h
    refine ⟨fun tw htw => by rw [hpts tw htw]; exact hall tw (hperm.mem_iff.mp htw), fun φ => ?_⟩
    rw [vden_prune, H2 hcomp hall φ, ← (hperm.map _).sum_eq]
    exact congrArg _ (List.map_congr_left fun tw htw => by rw [firstAt_congr _ (hpts tw htw)])
  · -- gradients: the last term is differentiable, so it is not evaluated
    rw [hpts last (List.mem_of_getLast? hl)]
    rw [reuse_preLoop] at hre
    obtain hnone | ⟨hr, _⟩ := last_visited_needs t hself hneed hl
    · exact hnone
    · rw [hr] at hre; cases hre

/-- under one value per point, a triplet of a composite at `x` carries the weighted sum of the values its terms have
at `x`: it is the weighted sum of some triplets of the terms at its point, and each of these carries its term's value -/
theorem Consistent.value_eq_sum {w : AW} (hc : Consistent w) (hw : WfW w) (hv : OneValue w) {f : Nat}
    (hf : f < w.funs.length) (hcomp : (w.getF f).isLeaf = false) {x : PDict} (hx : (Dict.keys x).Nodup) {t : ATriple}
    (hl : lookupTriple (w.getF f).pts x = some t)
    (hall : ∀ tw ∈ Dict.prune (w.getF f).decomp, ∃ t', lookupTriple (w.getF tw.1).pts x = some t') (φ : EKey → ℝ) :
    vden φ t.v =
      ((Dict.prune (w.getF f).decomp).map (fun tw => ((tw.2 : ℚ) : ℝ) * vden φ (firstAt w x tw.1).v)).sum := by
  obtain ⟨htm, hts⟩ := lookup_some_spec hw hx hl
  have htx := (hw f t htm).1
  obtain ⟨pick, hpm, _, hpv⟩ := hc f hf hcomp t htm
  rw [← hpv φ]
  refine congrArg _ (List.map_congr_left fun tw htw => ?_)
  obtain ⟨t', ht'⟩ := hall tw htw
  obtain ⟨hpmem, hpat⟩ := hpm tw htw
  have hps := samePt_of_atPoint (hw tw.1 _ hpmem).1 htx hpat
  rw [prune_eq_self_of_samePt htx hts] at hps
  rw [firstAt_of_lookup ht', hv.eq_lookup hw hx ht' hpmem (hps.trans hts) φ]

theorem oracleA_one (w : AW) (f : Nat) (x : PDict) (hf : f < w.funs.length) (hx : (Dict.keys x).Nodup)
    (hi : OInv w) (hv : OneValue w) (hgr : OneGrad w) :
    OneValue (oracleA w f x).1 ∧ OneGrad (oracleA w f x).1 := by
  obtain hleaf | hcomp := Bool.eq_false_or_eq_true (w.getF f).isLeaf
  · rw [oracleA_leaf w f x hleaf]; exact oracleLeafA_one w f x hi.1 hx hv hgr
  have hi0 := oinv_setDecomp_prune w f hi
  have hv0 := oneValue_setDecomp w f (Dict.prune (w.getF f).decomp) hv
  have hg0 := oneGrad_setDecomp w f (Dict.prune (w.getF f).decomp) hgr
  obtain ⟨t, _, _, e⟩ | ⟨a, b, g, v, e, _, hvd, hgd⟩ := oracleA_composite w f x hcomp
  · rw [e]; exact ⟨hv0, hg0⟩
  rw [e]
  set w0 := w.setDecomp f (Dict.prune (w.getF f).decomp)
  have hf0 : f < w0.funs.length := by rwa [length_setDecomp]
  have hcomp0 : (w0.getF f).isLeaf = false := by rwa [isLeaf_setDecomp]
  have hpp : Dict.prune (w0.getF f).decomp = (w0.getF f).decomp := prune_decomp_setDecomp_prune w f hf
  have ⟨hw0, _, hc0⟩ := hi0
  obtain ⟨h1, h1g⟩ := agrees_of_lookup hw0 hx hv0 (hvd.imp_right And.left)
  refine addPointA_one _ f ⟨x, g, v⟩ (oinv_counters w0 a b hi0) hf0 hx hgd.wf (hvd.wf hw0)
    (oneValue_counters w0 a b hv0) (oneGrad_counters w0 a b hg0) h1 h1g
    fun _ hall φ => ?_
  -- every term is evaluated at the point
  simp only [getF_counters, firstAt_counters, hpp, lookup_prune_arg, firstAt_prune_arg] at hall ⊢
  rcases hvd with ⟨t, hl, _, rfl⟩ | ⟨_, ⟨_, rfl⟩ | ⟨h2, _⟩⟩
  · simpa only [hpp] using hc0.value_eq_sum hw0 hv0 hf0 hcomp0 hx hl (by rwa [hpp]) φ
  · exact vden_combineV hw0 _ x hall φ
  · exact absurd (needBoth_eq_nil_iff.mpr hall) h2

/-- `add_point` of a triplet at a new leaf point (what `stationary_point()` / `fixed_point()` do) -/
theorem addPointA_newLeaf_one (w : AW) (f : Nat) (g : PDict) (hg : (Dict.keys g).Nodup) (hi : OInv w) (hb : Bounded w)
    (hf : f < w.funs.length) (hne : (w.getF f).isLeaf = false → Dict.prune (w.getF f).decomp ≠ [])
    (hv : OneValue w) (hgr : OneGrad w) :
    let w' := addPointA { w with nP := w.nP + 1, nE := w.nE + 1 } f ⟨leafPoint w.nP, g, leafExpr w.nE⟩
    OneValue w' ∧ OneGrad w' := by
  have hfresh : ∀ f', lookupTriple (w.getF f').pts (leafPoint w.nP) = none :=
    fun f' => lookup_fresh w hb f' w.nP (Nat.le_refl _)
  obtain ⟨h1, h1g⟩ := agrees_of_lookup (v := leafExpr w.nE) hi.1 (Dict.nodup_keys_single w.nP 1) hv (Or.inr (hfresh f))
  refine addPointA_one _ f _ (oinv_counters w _ _ hi) hf (Dict.nodup_keys_single _ _) hg (Dict.nodup_keys_single _ _)
    (oneValue_counters w _ _ hv) (oneGrad_counters w _ _ hgr)
    h1 h1g fun hcomp hall => ?_
  -- some term exists, and it is not evaluated at the new point
  obtain ⟨tw, htw⟩ := List.exists_mem_of_ne_nil _ (hne hcomp)
  obtain ⟨t', ht'⟩ := hall tw htw
  rw [prune_leafPoint, getF_counters, hfresh tw.1] at ht'
  cases ht'

theorem stationaryPointA_one (w : AW) (f : Nat) (hi : OInv w) (hb : Bounded w) (hf : f < w.funs.length)
    (hne : (w.getF f).isLeaf = false → Dict.prune (w.getF f).decomp ≠ [])
    (hv : OneValue w) (hgr : OneGrad w) :
    OneValue (stationaryPointA w f).1 ∧ OneGrad (stationaryPointA w f).1 :=
  addPointA_newLeaf_one w f [] List.nodup_nil hi hb hf hne hv hgr

theorem fixedPointA_one (w : AW) (f : Nat) (hi : OInv w) (hb : Bounded w) (hf : f < w.funs.length)
    (hne : (w.getF f).isLeaf = false → Dict.prune (w.getF f).decomp ≠ [])
    (hv : OneValue w) (hgr : OneGrad w) :
    OneValue (fixedPointA w f).1 ∧ OneGrad (fixedPointA w f).1 :=
  addPointA_newLeaf_one w f _ (Dict.nodup_keys_single _ _) hi hb hf hne hv hgr

end Pepit

#print axioms Pepit.oracleA_one
#print axioms Pepit.stationaryPointA_one
