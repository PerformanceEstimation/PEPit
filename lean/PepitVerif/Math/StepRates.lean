import PepitVerif.Math.Convex

/-!
# One-step rates of gradient methods on real functions: two potential functions and the Polyak steps

The facts about real runs on which the bounds of four example scripts rest (`Props/C09Methods`: `gdl1`, `gdl2`, `polyakd`,
`polyakf`), free of the scripts.  Each is a dual certificate with explicit multipliers, the ones PEPit finds numerically, here in
closed form: a combination of the first-order bounds of the class (`gd_potential_step`) or of the interpolation inequalities
of `Math/Convex` they imply (the other three; for `polyak_value_step` the combination is `polyakf_cleared`, over the reals).
-/

open RealInnerProductSpace

variable {E : Type*} [NormedAddCommGroup E] [InnerProductSpace ℝ E]

namespace Pepit.C09M

/-- one gradient step with `γ L = 1` does not increase `n (f − f⋆) + L/2 ‖· − x⋆‖²` while the weight `n ≥ 0` grows by
one, whatever the point taken as `x⋆`: `n + 1` times the descent inequality `f(x⁺) ≤ f(x) − γ/2 ‖g x‖²`, plus convexity
between `x` and `x⋆`, plus the expansion of `‖x⁺ − x⋆‖²`; what is left over is `n γ/2 ‖g x‖²` -/
theorem gd_potential_step (f : E → ℝ) (g : E → E) (L γ : ℝ) (hL : 0 < L) (hγ : γ * L = 1)
    (hconv : ∀ x y, f y ≥ f x + ⟪g x, y - x⟫)
    (hsm : ∀ x y, f y ≤ f x + ⟪g x, y - x⟫ + L / 2 * ‖y - x‖ ^ 2) (x xs : E) (n : ℝ) (hn : 0 ≤ n) :
    (n + 1) * (f (x - γ • g x) - f xs) + L / 2 * ‖x - γ • g x - xs‖ ^ 2
      ≤ n * (f x - f xs) + L / 2 * ‖x - xs‖ ^ 2 := by
  have hγ0 : 0 < γ := pos_of_mul_pos_left (by rw [hγ]; exact one_pos) hL.le
  have hd := hsm x (x - γ • g x)
  have hc := hconv x xs
  rw [sub_sub_cancel_left, inner_neg_right, norm_neg, real_inner_smul_right, norm_smul_sq,
    real_inner_self_eq_norm_sq] at hd
  rw [inner_sub_swap] at hc
  rw [norm_step_sub_sq]
  -- the multipliers of the inequalities are nonnegative by `hn`, `hγ0`, which `linear_combination` finds in the context
  linear_combination (n + 1) * hd + hc + (n * γ / 2) * sq_nonneg ‖g x‖
    -- and `γ L = 1` wherever a product `L γ` is left
    + ((n + 2) * γ / 2 * ‖g x‖ ^ 2 - ⟪g x, x - xs⟫) * hγ

/-- one gradient step with `γ L = 1` does not increase `(2n + 1) L (f − f⋆) + n(n + 2) ‖g‖² + L² ‖· − x⋆‖²` while `n ≥ 0` grows
by one.  The certificate PEPit finds numerically: multipliers `1`, `(n+1)(n+3)`, `n² + 3n + 3/2` on the interpolation
inequalities `(⋆, x)`, `(x, x⁺)`, `(x⁺, x)` of `interp_of_bounds` with `μ = 0`; `(n² + 3n + 3/2) ‖g x − g x⁺‖²` is left over -/
theorem gd_potential2_step (f : E → ℝ) (g : E → E) (L γ : ℝ) (hL : 0 < L) (hγ : γ * L = 1)
    (hconv : ∀ x y, f y ≥ f x + ⟪g x, y - x⟫)
    (hsm : ∀ x y, f y ≤ f x + ⟪g x, y - x⟫ + L / 2 * ‖y - x‖ ^ 2) (x xs : E) (hxs : g xs = 0) (n : ℝ) (hn : 0 ≤ n) :
    (2 * n + 3) * L * (f (x - γ • g x) - f xs) + (n + 1) * (n + 3) * ‖g (x - γ • g x)‖ ^ 2
        + L * L * ‖x - γ • g x - xs‖ ^ 2
      ≤ (2 * n + 1) * L * (f x - f xs) + n * (n + 2) * ‖g x‖ ^ 2 + L * L * ‖x - xs‖ ^ 2 := by
  have hlo : ∀ x y, f y ≥ f x + ⟪g x, y - x⟫ + 0 / 2 * ‖y - x‖ ^ 2 := by
    simpa only [zero_div, zero_mul, add_zero] using hconv
  have S01 := interp_from_stationary f g 0 L hL hlo hsm xs hxs x
  have S12 := interp_of_bounds f g 0 L hL hlo hsm x (x - γ • g x)
  have S21 := interp_of_bounds f g 0 L hL hlo hsm (x - γ • g x) x
  have hsq : 0 ≤ ‖g x - g (x - γ • g x)‖ ^ 2 := sq_nonneg _
  rw [sub_sub_cancel, real_inner_smul_right, real_inner_smul_right, norm_sub_sq_real,
    real_inner_comm (g x) (g (x - γ • g x))] at S12
  rw [sub_sub_cancel_left, inner_neg_right, inner_neg_right, real_inner_smul_right, real_inner_smul_right,
    real_inner_self_eq_norm_sq, norm_sub_rev, norm_sub_sq_real] at S21
  rw [norm_sub_sq_real] at hsq
  rw [norm_step_sub_sq]
  -- multipliers nonnegative by `hn`, in the context
  linear_combination S01 + ((n + 1) * (n + 3)) * S12 + (n ^ 2 + 3 * n + 3 / 2) * S21
    + (n ^ 2 + 3 * n + 3 / 2) * hsq
    -- and `γ L = 1` wherever a product `L γ` is left
    + ((2 * n ^ 2 + 6 * n + 4 + γ * L) * ‖g x‖ ^ 2 - 2 * (n + 1) * (n + 3) * ⟪g x, g (x - γ • g x)⟫
        - 2 * L * ⟪g x, x - xs⟫) * hγ

/-- **one step of length `γ` obeying the Polyak rule `γ ‖g x‖² = 2 (f x − f⋆)` contracts the squared distance to the
optimum by `(γL − 1)(1 − γμ) / (γ(L + μ) − 1)`** (written without the division), for lower and upper curvatures `μ < L` and
`γL ≥ 1 ≥ γμ`.  The dual certificate in closed form: multipliers `γ(γL − 1)` and `γ(1 − γμ)` on the interpolation
inequalities read from `x⋆` and from `x`, `(L − μ) γ (2 − γ(L + μ))` on the Polyak rule; nothing is left over. -/
theorem polyak_distance_step (f : E → ℝ) (g : E → E) (μ L γ : ℝ) (hμL : μ < L) (hγ : 0 ≤ γ)
    (hγL : 1 ≤ γ * L) (hγμ : γ * μ ≤ 1)
    (hlo : ∀ x y, f y ≥ f x + ⟪g x, y - x⟫ + μ / 2 * ‖y - x‖ ^ 2)
    (hup : ∀ x y, f y ≤ f x + ⟪g x, y - x⟫ + L / 2 * ‖y - x‖ ^ 2)
    (x xs : E) (hxs : g xs = 0) (hpol : γ * ‖g x‖ ^ 2 = 2 * (f x - f xs)) :
    (γ * (L + μ) - 1) * ‖x - γ • g x - xs‖ ^ 2 ≤ (γ * L - 1) * (1 - γ * μ) * ‖x - xs‖ ^ 2 := by
  have P1 := mul_le_mul_of_nonneg_left (interp_from_stationary f g μ L hμL hlo hup xs hxs x)
    (mul_nonneg hγ (sub_nonneg.mpr hγL))
  have P2 := mul_le_mul_of_nonneg_left (interp_to_stationary f g μ L hμL hlo hup xs hxs x)
    (mul_nonneg hγ (sub_nonneg.mpr hγμ))
  rw [norm_step_sub_sq]
  refine le_of_mul_le_mul_left ?_ (sub_pos.mpr hμL)
  linear_combination P1 + P2 - ((L - μ) * γ * (2 - γ * (L + μ))) * hpol

/-- the second factor of the closed form is nonnegative on the range of the example, `1/L ≤ γ ≤ (2L − μ)/L²`: it is concave in
`γ`, so it is a multiple of `(γL − 1)(2L − μ − γL²)` plus the chord through its values `1 − μ/L` and `(1 − μ/L)³` at the two ends -/
theorem polyakf_rate_nonneg (L μ γ : ℝ) (hL : 0 < L) (hμ : 0 ≤ μ) (hγL : 1 ≤ γ * L) (hγ2 : γ * L ^ 2 ≤ 2 * L - μ) :
    0 ≤ L * γ * (3 - γ * (L + μ)) - 1 := by
  have h1 := mul_nonneg (mul_nonneg (add_nonneg hL.le hμ) (sub_nonneg.mpr hγL)) (sub_nonneg.mpr hγ2)
  have h2 := mul_nonneg hL.le (sub_nonneg.mpr hγ2)
  have h3 := mul_nonneg (sub_nonneg.mpr hγL) (sq_nonneg (L - μ))
  refine nonneg_of_mul_nonneg_right ?_ (pow_pos hL 2)
  linear_combination h1 + h2 + h3

/-- `γμ ≤ 1` on the range of the example, since `(2L − μ) μ ≤ L²` -/
theorem polyakf_gamma_mu_le_one (L μ γ : ℝ) (hL : 0 < L) (hμ : 0 ≤ μ) (hγ2 : γ * L ^ 2 ≤ 2 * L - μ) : γ * μ ≤ 1 := by
  refine le_of_mul_le_mul_left ?_ (pow_pos hL 2)
  linear_combination mul_le_mul_of_nonneg_right hγ2 hμ + sq_nonneg (L - μ)

/-- the certificate of `polyak_value_step` over the reals (`aa = ‖x − x⋆‖²`, `ag0 = ⟪g0, x − x⋆⟫`, `ag1 = ⟪g1, x − x⋆⟫`, `g00`, `g01`, `g11`
the products of the two gradients, `F0`, `F1`, `F2` the values at `x⋆`, `x`, `x⁺`): multipliers `μγ(γL − 1)`, `γμ`, `1 − γμ` on the
interpolation inequalities `(⋆,0)`, `(⋆,1)`, `(0,1)` (denominators cleared), `(L − μ) γ (γ(L+μ) − 2)` on the Polyak rule, and the
residual square once -/
theorem polyakf_cleared (L μ γ aa ag0 ag1 g00 g01 g11 F0 F1 F2 : ℝ) (hLμ : 0 < L - μ) (hμ : 0 ≤ μ) (hγ : 0 ≤ γ)
    (hγL : 1 ≤ γ * L) (hγμ : γ * μ ≤ 1)
    (C01 : g00 - 2 * μ * ag0 + μ * L * aa ≤ 2 * (L - μ) * (F0 - F1 + ag0))
    (C02 : g11 - 2 * μ * (ag1 - γ * g01) + μ * L * (aa - 2 * γ * ag0 + γ ^ 2 * g00)
      ≤ 2 * (L - μ) * (F0 - F2 + (ag1 - γ * g01)))
    (C12 : g00 - 2 * g01 + g11 - 2 * μ * (γ * (g00 - g01)) + μ * L * (γ ^ 2 * g00) ≤ 2 * (L - μ) * (F1 - F2 - γ * g01))
    (hpol : g00 = 2 * L * (2 - L * γ) * (F1 - F0))
    (hres : 0 ≤ g11 + (L * γ * μ) ^ 2 * aa + (γ * (L + μ) - 1) ^ 2 * g00 - 2 * (L * γ * μ) * ag1
        + 2 * (γ * (L + μ) - 1) * g01 - 2 * (L * γ * μ) * (γ * (L + μ) - 1) * ag0) :
    F2 - F0 ≤ (γ * L - 1) * (L * γ * (3 - γ * (L + μ)) - 1) * (F1 - F0) := by
  have P1 := mul_le_mul_of_nonneg_left C01 (mul_nonneg (mul_nonneg hμ hγ) (sub_nonneg.mpr hγL))
  have P2 := mul_le_mul_of_nonneg_left C02 (mul_nonneg hγ hμ)
  have P3 := mul_le_mul_of_nonneg_left C12 (sub_nonneg.mpr hγμ)
  refine le_of_mul_le_mul_left ?_ (mul_pos two_pos hLμ)
  linear_combination P1 + P2 + P3 + hres + ((L - μ) * γ * (γ * (L + μ) - 2)) * hpol

theorem ssc_slack_cleared (μ L a b c X : ℝ) (hL : 0 < L) (hLμ : 0 < L - μ)
    (h : 0 ≤ X - (1 / (2 * L) * c + μ / (2 * (1 - μ / L)) * (a - 2 / L * b + 1 / L ^ 2 * c))) :
    c - 2 * μ * b + μ * L * a ≤ 2 * (L - μ) * X :=
  (ssc_form_iff μ L a b c X hL hLμ).mp (by linear_combination h)

/-- `polyakf_cleared` with the three interpolation slacks in the form of `ssc_interp`, denominators included (reals only) -/
theorem polyakf_core (Lr μ γr aa ag0 ag1 g00 g01 g11 D0 D1 : ℝ) (hL : 0 < Lr) (hμ : 0 < μ) (hLμ : 0 < Lr - μ)
    (hγpos : 0 < γr) (hγL : 1 ≤ γr * Lr) (hγμ : γr * μ ≤ 1)
    (hτ : 0 ≤ (γr * Lr - 1) * (Lr * γr * (3 - γr * (Lr + μ)) - 1))
    (hS01 : 0 ≤ -D0 + ag0 - (1 / (2 * Lr) * g00 + μ / (2 * (1 - μ / Lr)) * (aa - 2 / Lr * ag0 + 1 / Lr ^ 2 * g00)))
    (hS02 : 0 ≤ -D1 - (-ag1 + γr * g01) - (1 / (2 * Lr) * g11 + μ / (2 * (1 - μ / Lr)) *
      (aa - 2 * γr * ag0 + γr ^ 2 * g00 - 2 / Lr * (ag1 - γr * g01) + 1 / Lr ^ 2 * g11)))
    (hS12 : 0 ≤ (D0 - D1) - γr * g01 - (1 / (2 * Lr) * (g00 - 2 * g01 + g11) + μ / (2 * (1 - μ / Lr)) *
      (γr ^ 2 * g00 - 2 * γr / Lr * (g00 - g01) + 1 / Lr ^ 2 * (g00 - 2 * g01 + g11))))
    (hpol : g00 - 2 * Lr * (2 - Lr * γr) * D0 = 0) (hD0le : D0 ≤ 1)
    (hres : 0 ≤ g11 + (Lr * γr * μ) ^ 2 * aa + (γr * (Lr + μ) - 1) ^ 2 * g00 - 2 * (Lr * γr * μ) * ag1
        + 2 * (γr * (Lr + μ) - 1) * g01 - 2 * (Lr * γr * μ) * (γr * (Lr + μ) - 1) * ag0) :
    D1 ≤ (γr * Lr - 1) * (Lr * γr * (3 - γr * (Lr + μ)) - 1) := by
  have C01 := ssc_slack_cleared μ Lr _ _ _ _ hL hLμ hS01
  have C02 := ssc_slack_cleared μ Lr _ _ _ _ hL hLμ hS02
  have C12 := ssc_slack_cleared μ Lr (γr ^ 2 * g00) (γr * (g00 - g01)) (g00 - 2 * g01 + g11) (D0 - D1 - γr * g01)
    hL hLμ (by linear_combination hS12)
  have h := polyakf_cleared Lr μ γr aa ag0 ag1 g00 g01 g11 0 D0 D1 hLμ hμ.le hγpos.le hγL hγμ
    (by linear_combination C01) (by linear_combination C02) (by linear_combination C12)
    (by linear_combination hpol) hres
  linear_combination h + mul_le_mul_of_nonneg_left hD0le hτ

/-- **one step of length `γ` obeying the Polyak rule `‖g x‖² = 2L(2 − Lγ)(f x − f⋆)` brings the function value down by the
factor `(γL − 1)(Lγ(3 − γ(L + μ)) − 1)`**, for curvatures `0 ≤ μ < L` and `γL ≥ 1 ≥ γμ`.  Besides the three interpolation
inequalities the certificate has the residual `‖g1 − Lγμ (x − x⋆) + (γ(L+μ) − 1) g0‖² ≥ 0` (`polyakf_cleared`). -/
theorem polyak_value_step (f : E → ℝ) (g : E → E) (μ L γ : ℝ) (hμ : 0 ≤ μ) (hμL : μ < L) (hγ : 0 ≤ γ)
    (hγL : 1 ≤ γ * L) (hγμ : γ * μ ≤ 1)
    (hlo : ∀ x y, f y ≥ f x + ⟪g x, y - x⟫ + μ / 2 * ‖y - x‖ ^ 2)
    (hup : ∀ x y, f y ≤ f x + ⟪g x, y - x⟫ + L / 2 * ‖y - x‖ ^ 2)
    (x xs : E) (hxs : g xs = 0) (hpol : ‖g x‖ ^ 2 = 2 * L * (2 - L * γ) * (f x - f xs)) :
    f (x - γ • g x) - f xs ≤ (γ * L - 1) * (L * γ * (3 - γ * (L + μ)) - 1) * (f x - f xs) := by
  obtain ⟨xp, hxp⟩ : ∃ xp, xp = x - γ • g x := ⟨_, rfl⟩
  have C01 := interp_from_stationary f g μ L hμL hlo hup xs hxs x
  have C02 := interp_from_stationary f g μ L hμL hlo hup xs hxs xp
  have C12 := interp_of_bounds f g μ L hμL hlo hup x xp
  -- `x⁺ − x⋆ = (x − x⋆) − γ g0` and `x − x⁺ = γ g0`
  have e02 : ⟪g xp, xp - xs⟫ = ⟪g xp, x - xs⟫ - γ * ⟪g x, g xp⟫ := by
    rw [hxp, sub_right_comm, inner_sub_right, real_inner_smul_right, ← hxp, real_inner_comm (g x) (g xp)]
  have e12 : x - xp = γ • g x := by rw [hxp, sub_sub_cancel]
  rw [e02, hxp, norm_step_sub_sq, ← hxp] at C02
  rw [e12, real_inner_smul_right, real_inner_smul_right, norm_smul_sq, norm_sub_sq_real, inner_sub_left,
    real_inner_self_eq_norm_sq, real_inner_comm (g x) (g xp)] at C12
  have hres : 0 ≤ ‖g xp - (L * γ * μ) • (x - xs) + (γ * (L + μ) - 1) • g x‖ ^ 2 := sq_nonneg _
  rw [norm_add_smul_sq, norm_sub_smul_sq, inner_sub_left, real_inner_smul_left, real_inner_comm (g x) (g xp),
    real_inner_comm (g x) (x - xs)] at hres
  rw [← hxp]
  exact polyakf_cleared L μ γ _ _ _ _ _ _ _ _ _ (sub_pos.mpr hμL) hμ hγ hγL hγμ C01 C02 C12 hpol
    (by linear_combination hres)

end Pepit.C09M
