import PepitModel.Partition
import PepitVerif.Math.WellFormed

/-!
# Block partitions (property C15)
-/

open RealInnerProductSpace

variable {E : Type*} [NormedAddCommGroup E] [InnerProductSpace ℝ E]

theorem nodup_keys_accumulate (fresh : List PDict) : (Dict.keys (accumulate fresh)).Nodup :=
  Dict.nodup_keys_foldl_add fresh [] List.nodup_nil

theorem freshBlocks_nodup (d c : Nat) : ∀ b ∈ freshBlocks d c, (Dict.keys b).Nodup := by
  intro b hb
  obtain ⟨t, _, rfl⟩ := List.mem_map.mp hb
  exact List.nodup_singleton _

/-- whatever well-formed points come first, closing the list with `p` minus their accumulated sum makes
the list sum to `p` -/
theorem sum_append_sub_accumulate (v : Nat → E) (p : PDict) (fresh : List PDict)
    (hf : ∀ b ∈ fresh, (Dict.keys b).Nodup) :
    ((fresh ++ [PDict.sub p (accumulate fresh)]).map (PDict.den v)).sum = PDict.den v p := by
  rw [List.map_append, List.sum_append, List.map_singleton, List.sum_singleton,
    PDict.den_sub v p _ (nodup_keys_accumulate _),
    show PDict.den v (accumulate fresh) = _ from (Dict.denM_foldl_add v fresh hf []).trans (zero_add _)]
  exact add_sub_cancel _ _

/-- **the blocks of a point sum back to the point**, for every number of blocks, every point
(leaf or combination) and every counter value -/
theorem blocks_sum_back (v : Nat → E) (p : PDict) (d c : Nat) :
    ((partitionBlocks p d c).map (PDict.den v)).sum = PDict.den v p :=
  sum_append_sub_accumulate v p _ (freshBlocks_nodup d c)

/-- **a one-block partition is the identity** -/
theorem one_block_identity (v : Nat → E) (p : PDict) (c : Nat) :
    (partitionBlocks p 1 c).map (PDict.den v) = [PDict.den v p] := by
  simpa [partitionBlocks, freshBlocks] using blocks_sum_back v p 1 c

theorem mem_partitionIdx (nb d i j k l : Nat) :
    (i, j, k, l) ∈ partitionIdx nb d ↔ i < nb ∧ j < nb ∧ k < d ∧ l < k := by
  simp only [partitionIdx, List.mem_flatMap, List.mem_range, List.mem_map, Prod.mk.injEq]
  constructor
  · rintro ⟨i', hi, j', hj, k', hk, l', hl, rfl, rfl, rfl, rfl⟩
    exact ⟨hi, hj, hk, hl⟩
  · rintro ⟨hi, hj, hk, hl⟩
    exact ⟨i, hi, j, hj, k, hk, l, hl, rfl, rfl, rfl, rfl⟩

/-- **all of them**: every pair of *different* blocks of any two decomposed points (the same
point included) is related by a generated constraint, in one of the two orientations -/
theorem ortho_complete (nb d i j k l : Nat) (hi : i < nb) (hj : j < nb) (hk : k < d) (hl : l < d)
    (hne : k ≠ l) : (i, j, k, l) ∈ partitionIdx nb d ∨ (j, i, l, k) ∈ partitionIdx nb d := by
  simp only [mem_partitionIdx]
  omega

/-- **nothing more**: no generated constraint relates two equal block numbers -/
theorem ortho_only (nb d i j k l : Nat) (h : (i, j, k, l) ∈ partitionIdx nb d) : k ≠ l :=
  ((mem_partitionIdx nb d i j k l).mp h).2.2.2.ne'

/-- real coordinate-block projections: maps summing to the identity with mutually orthogonal
ranges -/
structure BlockProjections (d : Nat) (P : Nat → E → E) : Prop where
  sum_id : ∀ x, ((List.range d).map (fun k => P k x)).sum = x
  ortho : ∀ k l, k < d → l < d → k ≠ l → ∀ x y, ⟪P k x, P l y⟫ = 0

/-- **real projections satisfy the model**: the expression `xi^k * xj^l` of every generated
constraint denotes `0` when the blocks are interpreted by real block projections -/
theorem real_projection_sound (d : Nat) (P : Nat → E → E) (hP : BlockProjections d P)
    (v : Nat → E) (φ : Nat → ℝ) (bi bj : PDict) (xi xj : E) (k l : Nat) (hk : k < d) (hl : l < k)
    (hbi : PDict.den v bi = P k xi) (hbj : PDict.den v bj = P l xj) :
    EDict.den v φ (PDict.ip bi bj) = 0 := by
  rw [den_ip, hbi, hbj]
  exact hP.ortho k l hk (hl.trans hk) hl.ne' xi xj

#print axioms blocks_sum_back
#print axioms ortho_complete
