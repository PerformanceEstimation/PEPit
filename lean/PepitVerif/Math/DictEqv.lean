import PepitVerif.Math.WellFormed
import Mathlib.Data.List.Perm.Subperm

/-!
# Dictionaries as coefficient maps: lookup, `d.get(k, 0)`, and Python's `dict.__eq__` on duplicate-free
dictionaries as equality of the maps
-/

namespace Dict
variable {κ : Type} [DecidableEq κ]

theorem get?_none_iff (d : Dict κ) (k : κ) : d.get? k = none ↔ k ∉ keys d := by
  rw [← contains_iff_mem_keys]; simp [contains]

theorem mem_of_get? {d : Dict κ} {k : κ} {c : Coef} (h : d.get? k = some c) : (k, c) ∈ d := by
  obtain ⟨l₁, l₂, rfl, _⟩ := List.lookup_eq_some_iff.mp h
  simp

theorem get?_of_mem_nodup {d : Dict κ} (hnd : (keys d).Nodup) (kc : κ × Coef) (hkc : kc ∈ d) :
    d.get? kc.1 = some kc.2 := by
  obtain ⟨k, c⟩ := kc
  obtain ⟨l₁, l₂, rfl⟩ := List.append_of_mem hkc
  refine List.lookup_eq_some_iff.mpr ⟨l₁, l₂, rfl, fun p hp => ?_⟩
  simp only [keys, List.map_append, List.map_cons, List.nodup_append, List.mem_cons] at hnd
  simpa using fun e => hnd.2.2 p.1 (List.mem_map_of_mem hp) k (Or.inl rfl) e.symm

/-- coefficient of a key, `0` if absent (`d.get(k, 0)`) -/
def coefOf (d : Dict κ) (k : κ) : Coef := (d.get? k).getD 0

theorem coefOf_cons (k : κ) (c : Coef) (t : Dict κ) (k' : κ) :
    coefOf ((k, c) :: t) k' = if k = k' then c else coefOf t k' := by
  unfold coefOf get?
  rw [List.lookup_cons]
  by_cases h : k' = k
  · simp [h]
  · rw [beq_false_of_ne h, if_neg (Ne.symm h)]

theorem coefOf_of_not_mem {d : Dict κ} {k : κ} (h : k ∉ keys d) : coefOf d k = 0 := by
  rw [coefOf, (get?_none_iff d k).mpr h]; rfl

theorem coefOf_of_mem {d : Dict κ} (hnd : (keys d).Nodup) (kc : κ × Coef) (hkc : kc ∈ d) : coefOf d kc.1 = kc.2 := by
  rw [coefOf, get?_of_mem_nodup hnd kc hkc]; rfl

theorem eqv_iff (a b : Dict κ) (ha : (keys a).Nodup) (hb : (keys b).Nodup) :
    eqv a b = true ↔ ∀ k, a.get? k = b.get? k := by
  unfold eqv
  simp only [Bool.and_eq_true, beq_iff_eq, List.all_eq_true]
  constructor
  · rintro ⟨hlen, hall⟩ k
    -- every key of `a` is a key of `b`; both lists are duplicate-free and equally long: same keys
    have hsub : keys a ⊆ keys b := by
      intro k hk
      obtain ⟨kc, hkc, rfl⟩ := List.mem_map.mp hk
      by_contra hn
      rw [← get?_none_iff, hall kc hkc] at hn; cases hn
    have hperm : (keys a).Perm (keys b) :=
      (List.Nodup.subperm ha hsub).perm_of_length_le (by simp [keys, hlen])
    cases hak : a.get? k with
    | none => exact ((get?_none_iff b k).mpr (mt hperm.mem_iff.mpr ((get?_none_iff a k).mp hak))).symm
    | some c => exact (hall (k, c) (mem_of_get? hak)).symm
  · intro h
    have hperm : (keys a).Perm (keys b) := by
      rw [List.perm_ext_iff_of_nodup ha hb]
      intro k
      rw [← not_iff_not, ← get?_none_iff, ← get?_none_iff, h k]
    exact ⟨by simpa [keys] using hperm.length_eq,
      fun kc hkc => h kc.1 ▸ get?_of_mem_nodup ha kc hkc⟩

end Dict
