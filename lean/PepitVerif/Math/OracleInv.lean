import PepitVerif.Math.AddPointSpec

/-!
# The oracle bookkeeping invariant over *every* sequence of oracle / gradient / value calls (C07)

World: any set of declared leaf and composite functions.  Invariant: stored dictionaries are well
formed, the structure of composites is sane, and **every triplet recorded on a composite function is
the weighted sum of triplets recorded at the same point on its terms**.  `oracleA` preserves it
(`oracleA_inv`); that it holds after every finite sequence of calls is `C07.run_inv`.
-/

namespace Pepit

/-- composites range over existing leaf functions, without repetition, and a composite that is not
flagged differentiable has a non-differentiable term of non-zero weight -/
def Struct (w : AW) : Prop :=
  ∀ f, f < w.funs.length → (w.getF f).isLeaf = false →
    (∀ tw ∈ Dict.prune (w.getF f).decomp, tw.1 < w.funs.length ∧ (w.getF tw.1).isLeaf = true) ∧
    ((Dict.prune (w.getF f).decomp).map (·.1)).Nodup ∧
    ((w.getF f).reuse = false → ∃ tw ∈ Dict.prune (w.getF f).decomp, (w.getF tw.1).reuse = false)

/-- **sum consistency**: every triplet of a composite is the weighted sum of triplets of its terms at
the same point -/
def Consistent (w : AW) : Prop :=
  ∀ f, f < w.funs.length → (w.getF f).isLeaf = false → ∀ t ∈ (w.getF f).pts,
    SumWitnessF w (Dict.prune (w.getF f).decomp) t.x t.g t.v

def OInv (w : AW) : Prop := WfW w ∧ Struct w ∧ Consistent w

theorem ne_of_isLeaf {w : AW} {f g : Nat} (hf : (w.getF f).isLeaf = true) (hg : (w.getF g).isLeaf = false) : f ≠ g :=
  fun e => by rw [e, hg] at hf; cases hf

/-- a composite is not among its own terms (they are leaves) -/
theorem Struct.ne_self {w : AW} (hs : Struct w) {f : Nat} (hf : f < w.funs.length)
    (hcomp : (w.getF f).isLeaf = false) : ∀ tw ∈ Dict.prune (w.getF f).decomp, tw.1 ≠ f :=
  fun tw htw => ne_of_isLeaf ((hs f hf hcomp).1 tw htw).2 hcomp

theorem struct_of_extends {w w' : AW} (h : Extends w w') (hs : Struct w) : Struct w' := by
  intro f hf hleaf
  rw [h.len] at hf
  rw [(h.flags f).1] at hleaf
  simp only [h.len, (h.flags _).1, (h.flags _).2.1, (h.flags f).2.2]
  exact hs f hf hleaf

/-- old triplets keep their witnesses when the world grows; it remains to treat the new ones -/
theorem consistent_of_extends {w w' : AW} (h : Extends w w') (hc : Consistent w)
    (hnew : ∀ f, f < w.funs.length → (w.getF f).isLeaf = false → ∀ t ∈ (w'.getF f).pts, t ∉ (w.getF f).pts →
      SumWitnessF w' (Dict.prune (w.getF f).decomp) t.x t.g t.v) : Consistent w' := by
  intro f hf hleaf t ht
  rw [h.len] at hf
  rw [(h.flags f).1] at hleaf
  rw [(h.flags f).2.2]
  by_cases hold : t ∈ (w.getF f).pts
  · exact sumWitnessF_mono h (hc f hf hleaf t hold)
  · exact hnew f hf hleaf t ht hold

theorem oinv_of_extends {w w' : AW} (h : Extends w w') (hwf : WfW w') (hi : OInv w)
    (hpts : ∀ g, (w.getF g).isLeaf = false → (w'.getF g).pts = (w.getF g).pts) : OInv w' :=
  ⟨hwf, struct_of_extends h hi.2.1, consistent_of_extends h hi.2.2 fun g _ hgl _ ht hnot =>
    absurd (hpts g hgl ▸ ht) hnot⟩

theorem oinv_counters (w : AW) (a b : Nat) (h : OInv w) : OInv { w with nP := a, nE := b } := h

theorem getF_counters (w : AW) (a b : Nat) (g : Nat) : ({ w with nP := a, nE := b } : AW).getF g = w.getF g := rfl

theorem oinv_setDecomp_prune (w : AW) (f : Nat) (hi : OInv w) : OInv (w.setDecomp f (Dict.prune (w.getF f).decomp)) :=
  oinv_of_extends (extends_setDecomp_prune w f) (wfW_setDecomp w f _ hi.1) hi fun g _ => pts_setDecomp w f g _

theorem record_leaf_inv (w : AW) (f : Nat) (t : ATriple) (hi : OInv w) (hleaf : (w.getF f).isLeaf = true)
    (hx : (Dict.keys t.x).Nodup) (hg : (Dict.keys t.g).Nodup) (hv : (Dict.keys t.v).Nodup) :
    OInv (w.record f t) :=
  oinv_of_extends (extends_record w f t) (wfW_record w f t hi.1 hx hg hv) hi fun _ hgl =>
    pts_record_of_ne w t (ne_of_isLeaf hleaf hgl).symm

theorem oracleLeafA_inv (w : AW) (f : Nat) (x : PDict) (hf : f < w.funs.length) (hleaf : (w.getF f).isLeaf = true)
    (hx : (Dict.keys x).Nodup) (hi : OInv w) : OInv (oracleLeafA w f x).1 := by
  obtain ⟨hext, hwf, _⟩ := oracleLeafA_spec w f x hf hi.1 hx
  exact oinv_of_extends hext hwf hi fun _ hgl => pts_oracleLeafA_of_ne w x (ne_of_isLeaf hleaf hgl).symm

/-- the first triplet of function `i` recorded at `x` (what `_is_already_evaluated_on_point` returns) -/
def firstAt (w : AW) (x : PDict) (i : Nat) : ATriple :=
  (lookupTriple (w.getF i).pts x).getD ⟨[], [], []⟩

theorem firstAt_of_lookup {w : AW} {x : PDict} {i : Nat} {t : ATriple} (h : lookupTriple (w.getF i).pts x = some t) :
    firstAt w x i = t := by
  rw [firstAt, h, Option.getD_some]

theorem firstAt_counters (w : AW) (a b : Nat) (x : PDict) (i : Nat) :
    firstAt ({ w with nP := a, nE := b } : AW) x i = firstAt w x i := rfl

theorem firstAt_congr {w w' : AW} (x : PDict) {i : Nat} (h : (w'.getF i).pts = (w.getF i).pts) :
    firstAt w' x i = firstAt w x i := by
  unfold firstAt; rw [h]

theorem firstAt_prune_arg (w : AW) (x : PDict) (i : Nat) : firstAt w (Dict.prune x) i = firstAt w x i := by
  unfold firstAt; rw [lookup_prune_arg]

/-- `combineG` / `combineV`: when every term is evaluated at `x`, the accumulated dictionary denotes the weighted sum of
the components `sel` of the terms' first triplets at `x` -/
theorem denM_combine {κ : Type} [DecidableEq κ] (val : κ → ℝ) (w : AW) (x : PDict) (sel : ATriple → Dict κ)
    (hsel : ∀ f t, t ∈ (w.getF f).pts → (Dict.keys (sel t)).Nodup) :
    ∀ (d : Dict Nat) (acc : Dict κ), (∀ tw ∈ d, ∃ t, lookupTriple (w.getF tw.1).pts x = some t) →
      Dict.denM val (d.foldl (fun acc tw =>
          match lookupTriple (w.getF tw.1).pts x with
          | some t => Dict.prune (Dict.merge acc (Dict.scale (sel t) tw.2))
          | none => acc) acc)
        = Dict.denM val acc + (d.map (fun tw => ((tw.2 : ℚ) : ℝ) * Dict.denM val (sel (firstAt w x tw.1)))).sum := by
  intro d
  induction d with
  | nil => simp
  | cons tw rest ih =>
    intro acc hall
    obtain ⟨t, ht⟩ := hall tw List.mem_cons_self
    rw [List.foldl_cons, ih _ fun tw' h' => hall tw' (List.mem_cons_of_mem _ h')]
    simp only [ht, firstAt_of_lookup ht, List.map_cons, List.sum_cons]
    rw [Dict.denM_add val acc _ (Dict.nodup_keys_scale _ _ (hsel tw.1 t (lookupTriple_some ht).1)), Dict.denM_scale,
      smul_eq_mul, add_assoc]

theorem gden_combineG {w : AW} (hw : WfW w) (d : Dict Nat) (x : PDict)
    (hall : ∀ tw ∈ d, ∃ t, lookupTriple (w.getF tw.1).pts x = some t) (val : Nat → ℝ) :
    gden val (combineG w d x) = (d.map (fun tw => ((tw.2 : ℚ) : ℝ) * gden val (firstAt w x tw.1).g)).sum :=
  (denM_combine val w x ATriple.g (fun f t h => (hw f t h).2.1) d [] hall).trans (zero_add _)

theorem vden_combineV {w : AW} (hw : WfW w) (d : Dict Nat) (x : PDict)
    (hall : ∀ tw ∈ d, ∃ t, lookupTriple (w.getF tw.1).pts x = some t) (φ : EKey → ℝ) :
    vden φ (combineV w d x) = (d.map (fun tw => ((tw.2 : ℚ) : ℝ) * vden φ (firstAt w x tw.1).v)).sum :=
  (denM_combine φ w x ATriple.v (fun f t h => (hw f t h).2.2) d [] hall).trans (zero_add _)

theorem wf_combine {κ : Type} [DecidableEq κ] (w : AW) (x : PDict) (sel : ATriple → Dict κ) (d : Dict Nat) :
    (Dict.keys (d.foldl (fun acc tw =>
        match lookupTriple (w.getF tw.1).pts x with
        | some t => Dict.prune (Dict.merge acc (Dict.scale (sel t) tw.2))
        | none => acc) [])).Nodup := by
  refine List.foldlRecOn (motive := fun m => (Dict.keys m).Nodup) d _ List.nodup_nil fun m hm tw _ => ?_
  split
  · exact Dict.nodup_keys_prune _ (Dict.nodup_keys_merge _ _ hm)
  · exact hm

theorem wf_combineG (w : AW) (d : Dict Nat) (x : PDict) : (Dict.keys (combineG w d x)).Nodup :=
  wf_combine w x ATriple.g d

theorem wf_combineV (w : AW) (d : Dict Nat) (x : PDict) : (Dict.keys (combineV w d x)).Nodup :=
  wf_combine w x ATriple.v d

theorem classify_none_need (w : AW) (d : Dict Nat) (x : PDict)
    (h1 : (classify w d x).2.1 = []) (h2 : (classify w d x).2.2 = []) :
    ∀ tw ∈ d, (∃ t, lookupTriple (w.getF tw.1).pts x = some t) ∧ (w.getF tw.1).reuse = true := by
  intro tw htw
  obtain ⟨t, hl⟩ := needBoth_eq_nil_iff.mp h2 tw htw
  cases hr : (w.getF tw.1).reuse with
  | false => exact absurd (mem_needGradient.mpr ⟨htw, hr, t, hl⟩) (by simp [h1])
  | true => exact ⟨⟨t, hl⟩, rfl⟩

theorem classify_congr {w w' : AW} {d : Dict Nat} (x : PDict)
    (h : ∀ tw ∈ d, (w'.getF tw.1).pts = (w.getF tw.1).pts ∧ (w'.getF tw.1).reuse = (w.getF tw.1).reuse) :
    classify w' d x = classify w d x :=
  List.foldl_ext _ _ _ fun acc tw htw => by simp only [classifyStep, (h tw htw).1, (h tw htw).2]

theorem classify_prune_arg (w : AW) (d : Dict Nat) (x : PDict) : classify w d (Dict.prune x) = classify w d x := by
  simp only [classify_eq, lookup_prune_arg]

theorem classify_preLoop (w : AW) (f : Nat) (t : ATriple) {d : Dict Nat} (x : PDict) (hne : ∀ tw ∈ d, tw.1 ≠ f) :
    classify (preLoop w f t) d x = classify w d x :=
  classify_congr x fun tw htw => ⟨pts_preLoop_of_ne w t (hne tw htw), reuse_preLoop w f tw.1 t⟩

theorem visitOrder_eq (w : AW) (f : Nat) (t : ATriple) (hself : ∀ tw ∈ Dict.prune (w.getF f).decomp, tw.1 ≠ f) :
    visitOrder w f t =
      (classify w (Dict.prune (w.getF f).decomp) (Dict.prune t.x)).1 ++
        ((classify w (Dict.prune (w.getF f).decomp) (Dict.prune t.x)).2.1 ++
          (classify w (Dict.prune (w.getF f).decomp) (Dict.prune t.x)).2.2) := by
  unfold visitOrder; rw [classify_preLoop w f t _ hself]

/-- which triplet lists `add_point` on a composite `f` touches: `f` itself (one more triplet) and its terms -/
theorem addPointA_frame (w : AW) (f : Nat) (t : ATriple) (hf : f < w.funs.length)
    (hcomp : (w.getF f).isLeaf = false) (hself : ∀ tw ∈ Dict.prune (w.getF f).decomp, tw.1 ≠ f) :
    (∀ g, g ≠ f → g ∉ (Dict.prune (w.getF f).decomp).map (·.1) → ((addPointA w f t).getF g).pts = (w.getF g).pts) ∧
    ((addPointA w f t).getF f).pts = (w.getF f).pts ++ [⟨Dict.prune t.x, Dict.prune t.g, Dict.prune t.v⟩] := by
  have hmem : ∀ g, g ∈ (visitOrder w f t).map (·.1) ↔ g ∈ (Dict.prune (w.getF f).decomp).map (·.1) :=
    fun g => ((visitOrder_perm w f t).map _).mem_iff
  have hnf : f ∉ (visitOrder w f t).map (·.1) := fun h => by
    obtain ⟨tw, htw, e⟩ := List.mem_map.mp ((hmem f).mp h)
    exact hself tw htw e
  rw [addPointA_composite w f t hcomp]
  split
  · exact ⟨fun g hgf hg => by
        rw [pts_distribute_of_not_mem _ g _ _ _ _ (mt (hmem g).mp hg), pts_preLoop_of_ne w t hgf],
      by rw [pts_distribute_of_not_mem _ f _ _ _ _ hnf, pts_preLoop, pts_record_self w f t hf]⟩
  · exact ⟨fun g hgf _ => pts_preLoop_of_ne w t hgf, by rw [pts_preLoop, pts_record_self w f t hf]⟩

/-- **`add_point` on a composite keeps the invariant**, provided that in the case where no term needs
anything the triplet being added is already the weighted sum of stored triplets of the terms -/
theorem addPointA_composite_inv (w : AW) (f : Nat) (t : ATriple) (hi : OInv w) (hf : f < w.funs.length)
    (hcomp : (w.getF f).isLeaf = false)
    (hx : (Dict.keys t.x).Nodup) (hg : (Dict.keys t.g).Nodup) (hv : (Dict.keys t.v).Nodup)
    (hnone : someTermNeeds w f t = false →
      SumWitnessF (addPointA w f t) (Dict.prune (w.getF f).decomp) (Dict.prune t.x) (Dict.prune t.g) (Dict.prune t.v)) :
    OInv (addPointA w f t) := by
  obtain ⟨hw, hs, hc⟩ := hi
  obtain ⟨hterms, hnd, _⟩ := hs f hf hcomp
  obtain ⟨hext, hwf, hwit⟩ := addPointA_composite_spec w f t hw hx hg hv hcomp (fun tw htw => (hterms tw htw).1) hnd
  obtain ⟨hframe, hptsf⟩ := addPointA_frame w f t hf hcomp (hs.ne_self hf hcomp)
  refine ⟨hwf, struct_of_extends hext hs, consistent_of_extends hext hc fun g _ hgleaf t' ht' hnot => ?_⟩
  by_cases hgf : g = f
  · subst hgf
    rw [hptsf, List.mem_append, List.mem_singleton] at ht'
    obtain rfl := ht'.resolve_left hnot
    cases hneed : someTermNeeds w g t with
    | true => exact hwit hneed
    | false => exact hnone hneed
  · -- another composite: it is neither `f` nor one of the (leaf) terms
    refine absurd (hframe g hgf (fun h => ?_) ▸ ht') hnot
    obtain ⟨tw, htw, e⟩ := List.mem_map.mp h
    exact ne_of_isLeaf (hterms tw htw).2 hgleaf e

/-- the value `oracle` gives a composite function at `x`: the stored one if there is one, else the combination of the
terms' values if all terms are evaluated, else a new leaf -/
def OracleValue (w : AW) (f : Nat) (x : PDict) (v : EDict) : Prop :=
  (∃ t, lookupTriple (w.getF f).pts x = some t ∧ (w.getF f).reuse = false ∧ v = t.v) ∨
  (lookupTriple (w.getF f).pts x = none ∧
    (((classify w (w.getF f).decomp x).2.2 = [] ∧ v = combineV w (w.getF f).decomp x) ∨
      ((classify w (w.getF f).decomp x).2.2 ≠ [] ∧ v = leafExpr w.nE)))

/-- the gradient `oracle` gives a composite function at `x`: the combination of the terms' gradients if no term
needs anything, else a new leaf -/
def OracleGrad (w : AW) (f : Nat) (x g : PDict) : Prop :=
  ((classify w (w.getF f).decomp x).2.1 = [] ∧ (classify w (w.getF f).decomp x).2.2 = [] ∧
    g = combineG w (w.getF f).decomp x) ∨
  (¬((classify w (w.getF f).decomp x).2.1 = [] ∧ (classify w (w.getF f).decomp x).2.2 = []) ∧ ∃ n, g = leafPoint n)

theorem OracleValue.wf {w : AW} {f : Nat} {x : PDict} {v : EDict} (h : OracleValue w f x v) (hw : WfW w) :
    (Dict.keys v).Nodup := by
  rcases h with ⟨t, hl, _, rfl⟩ | ⟨_, ⟨_, rfl⟩ | ⟨_, rfl⟩⟩
  · exact (hw f t (lookupTriple_some hl).1).2.2
  · exact wf_combineV _ _ _
  · exact Dict.nodup_keys_single _ _

theorem OracleGrad.wf {w : AW} {f : Nat} {x g : PDict} (h : OracleGrad w f x g) : (Dict.keys g).Nodup := by
  rcases h with ⟨_, _, rfl⟩ | ⟨_, n, rfl⟩
  · exact wf_combineG _ _ _
  · exact Dict.nodup_keys_single n 1

/-- what `oracle` does on a composite function once its decomposition is pruned (`w0`): hand out the stored triplet of
a differentiable function, or `add_point` a triplet `(x, g, v)` made of `OracleGrad` and `OracleValue`, after creating
the leaves they need -/
theorem oracleA_composite (w : AW) (f : Nat) (x : PDict) (hcomp : (w.getF f).isLeaf = false) :
    let w0 := w.setDecomp f (Dict.prune (w.getF f).decomp)
    (∃ t, lookupTriple (w0.getF f).pts x = some t ∧ (w0.getF f).reuse = true ∧ oracleA w f x = (w0, t.g, t.v)) ∨
    ∃ a b g v, oracleA w f x = (addPointA { w0 with nP := a, nE := b } f ⟨x, g, v⟩, g, v) ∧ w0.nP ≤ a ∧
      OracleValue w0 f x v ∧ OracleGrad w0 f x g := by
  dsimp only
  unfold oracleA
  simp only [hcomp, Bool.false_eq_true, if_false, Bool.and_eq_true, List.isEmpty_iff]
  set w0 := w.setDecomp f (Dict.prune (w.getF f).decomp)
  set c := classify w0 (w0.getF f).decomp x
  cases hl : lookupTriple (w0.getF f).pts x with
  | some t =>
    cases hr : (w0.getF f).reuse with
    | true => exact Or.inl ⟨t, rfl, rfl, rfl⟩
    | false =>
      refine Or.inr ?_
      by_cases h12 : c.2.2 = [] ∧ c.2.1 = []
      · rw [if_pos h12]
        exact ⟨w0.nP, w0.nE, _, _, rfl, Nat.le_refl _, Or.inl ⟨t, hl, hr, rfl⟩, Or.inl ⟨h12.2, h12.1, rfl⟩⟩
      · rw [if_neg h12]
        exact ⟨w0.nP + 1, w0.nE, _, _, rfl, Nat.le_succ _, Or.inl ⟨t, hl, hr, rfl⟩, Or.inr ⟨mt And.symm h12, _, rfl⟩⟩
  | none =>
    refine Or.inr ?_
    by_cases h2 : c.2.2 = []
    · rw [if_pos h2]
      by_cases h1 : c.2.1 = []
      · rw [if_pos ⟨h2, h1⟩]
        exact ⟨w0.nP, w0.nE, _, _, rfl, Nat.le_refl _, Or.inr ⟨hl, Or.inl ⟨h2, rfl⟩⟩, Or.inl ⟨h1, h2, rfl⟩⟩
      · rw [if_neg fun h => h1 h.2]
        exact ⟨w0.nP + 1, w0.nE, _, _, rfl, Nat.le_succ _, Or.inr ⟨hl, Or.inl ⟨h2, rfl⟩⟩, Or.inr ⟨fun h => h1 h.1, _, rfl⟩⟩
    · rw [if_neg h2, if_neg fun h => h2 h.1]
      exact ⟨w0.nP + 1, w0.nE + 1, _, _, rfl, Nat.le_succ _, Or.inr ⟨hl, Or.inr ⟨h2, rfl⟩⟩, Or.inr ⟨fun h => h2 h.2, _, rfl⟩⟩

theorem someTermNeeds_eq_false_iff {w : AW} {f : Nat} (t : ATriple)
    (hself : ∀ tw ∈ Dict.prune (w.getF f).decomp, tw.1 ≠ f) :
    someTermNeeds w f t = false ↔
      (classify w (Dict.prune (w.getF f).decomp) (Dict.prune t.x)).2.1 = [] ∧
      (classify w (Dict.prune (w.getF f).decomp) (Dict.prune t.x)).2.2 = [] := by
  unfold someTermNeeds
  simp only [decomp_record]
  rw [classify_preLoop w f t _ hself]
  simp

theorem oracleA_leaf (w : AW) (f : Nat) (x : PDict) (hleaf : (w.getF f).isLeaf = true) :
    oracleA w f x = oracleLeafA w f x := by
  simp [oracleA, hleaf]

/-- `value` leaves the world as it is where a value is stored at the point, and is `oracle` otherwise -/
theorem valueA_fst (w : AW) (f : Nat) (x : PDict) : (valueA w f x).1 = w ∨ (valueA w f x).1 = (oracleA w f x).1 := by
  unfold valueA
  split
  · exact .inl rfl
  · exact .inr rfl

theorem extends_oracleA (w : AW) (f : Nat) (x : PDict) : Extends w (oracleA w f x).1 := by
  obtain hl | hcomp := Bool.eq_false_or_eq_true (w.getF f).isLeaf
  · rw [oracleA_leaf w f x hl]; exact extends_oracleLeafA w f x
  · obtain ⟨t, _, _, e⟩ | ⟨a, b, g, v, e, _⟩ := oracleA_composite w f x hcomp <;> rw [e]
    · exact extends_setDecomp_prune w f
    · exact ((extends_setDecomp_prune w f).trans (extends_counters _ a b)).trans (extends_addPointA _ f _)

/-- in the world where nobody needs anything, the sums of the stored triplets form a witness -/
theorem witness_of_combine {w0 w' : AW} (hw0 : WfW w0) (hext : Extends w0 w') (d : Dict Nat) (x : PDict)
    (hall : ∀ tw ∈ d, ∃ t, lookupTriple (w0.getF tw.1).pts x = some t) :
    SumWitnessF w' d (Dict.prune x) (Dict.prune (combineG w0 d x)) (Dict.prune (combineV w0 d x)) := by
  refine ⟨firstAt w0 x, fun tw htw => ?_, fun val => ?_, fun φ => ?_⟩
  · obtain ⟨t, ht⟩ := hall tw htw
    rw [firstAt_of_lookup ht]
    exact ⟨hext.pts _ _ (lookupTriple_some ht).1, Or.inl (by rw [Dict.prune_prune]; exact (lookupTriple_some ht).2)⟩
  · rw [gden_prune, gden_combineG hw0 d x hall]
  · rw [vden_prune, vden_combineV hw0 d x hall]

/-- **`oracle` preserves the invariant**, on leaf and composite functions alike -/
theorem oracleA_inv (w : AW) (f : Nat) (x : PDict) (hf : f < w.funs.length) (hx : (Dict.keys x).Nodup)
    (hi : OInv w) : OInv (oracleA w f x).1 := by
  obtain hleaf | hcomp := Bool.eq_false_or_eq_true (w.getF f).isLeaf
  · rw [oracleA_leaf w f x hleaf]; exact oracleLeafA_inv w f x hf hleaf hx hi
  have hi0 := oinv_setDecomp_prune w f hi
  obtain ⟨t, _, _, e⟩ | ⟨a, b, g, v, e, _, hv, hg⟩ := oracleA_composite w f x hcomp
  · rw [e]; exact hi0
  rw [e]
  set w0 := w.setDecomp f (Dict.prune (w.getF f).decomp)
  have hf0 : f < w0.funs.length := by rwa [length_setDecomp]
  have hcomp0 : (w0.getF f).isLeaf = false := by rwa [isLeaf_setDecomp]
  have hpp : Dict.prune (w0.getF f).decomp = (w0.getF f).decomp := prune_decomp_setDecomp_prune w f hf
  have hi1 := oinv_counters w0 a b hi0
  refine addPointA_composite_inv _ f ⟨x, g, v⟩ hi1 hf0 hcomp0 hx hg.wf (hv.wf hi0.1) fun hnn => ?_
  -- no term needs anything: every term is differentiable and evaluated, so `g` and `v` are the combinations
  have hnone : (classify w0 (w0.getF f).decomp x).2.1 = [] ∧ (classify w0 (w0.getF f).decomp x).2.2 = [] := by
    have := (someTermNeeds_eq_false_iff ⟨x, g, v⟩ (hi1.2.1.ne_self hf0 hcomp0)).mp hnn
    rwa [classify_prune_arg, getF_counters, hpp] at this
  have hall := classify_none_need w0 _ x hnone.1 hnone.2
  rcases hg with ⟨_, _, rfl⟩ | ⟨h, _⟩
  swap
  · exact absurd hnone h
  rcases hv with ⟨t, _, hr, rfl⟩ | ⟨_, ⟨_, rfl⟩ | ⟨h2, _⟩⟩
  · -- a composite that is not differentiable has a term that is not
    obtain ⟨twn, htwn, hrn⟩ := (hi0.2.1 f hf0 hcomp0).2.2 hr
    rw [hpp] at htwn
    rw [(hall twn htwn).2] at hrn; cases hrn
  · rw [show Dict.prune (({ w0 with nP := a, nE := b } : AW).getF f).decomp = (w0.getF f).decomp from hpp]
    exact witness_of_combine hi0.1 ((extends_counters w0 a b).trans (extends_addPointA _ f _)) _ x
      fun tw htw => (hall tw htw).1
  · exact absurd hnone.2 h2

end Pepit

#print axioms Pepit.oracleA_inv
