import PepitModel.QForm
import PepitModel.GenClasses
import PepitVerif.Math.GramExpand
import Mathlib.Analysis.InnerProductSpace.Basic
import Mathlib.Tactic.Ring
import Mathlib.Tactic.FieldSimp

/-!
# Generated class formulas denote their canonical forms

One obligation `QForm.den (Gen.<Class>.<cond> params) = Canon.<cond>` per generated definition;
the mathematics of C03 is proved about `Canon`.
Canonical forms are written with inner products only; a constraint `a >= b` has expression
`b - a`, a constraint `a <= b` or `a == b` has expression `a - b`.

Every obligation is proved in the same two steps: the simp set `gram_expand` writes both sides as
linear combinations of the inner products `⟪pv a, pv b⟫`, the values `fv s` and `1`, and `ring`
compares the coefficients.  For `ring` the quotients `1 / (2 * L)`, `μ / (2 * (1 - μ / L))` are
built from atoms `L⁻¹`, `(1 - μ * L⁻¹)⁻¹` that occur on both sides, so the guards `L ≠ 0`, `μ ≠ L`
are not used: they record where the Python source divides by zero.
-/

open RealInnerProductSpace

variable {E : Type*} [NormedAddCommGroup E] [InnerProductSpace ℝ E]

def qkeyVal (pv : PSym → E) (fv : FSym → ℝ) : QKey → ℝ
  | .f s => fv s
  | .ip a b => ⟪pv a, pv b⟫
  | .one => 1

noncomputable def QForm.den (pv : PSym → E) (fv : FSym → ℝ) (q : QForm) : ℝ :=
  (q.map (fun kc => ((kc.2 : ℚ) : ℝ) * qkeyVal pv fv kc.1)).sum

@[gram_expand] theorem QForm.den_nil (pv : PSym → E) (fv : FSym → ℝ) : QForm.den pv fv [] = 0 := rfl

@[gram_expand] theorem QForm.den_cons (pv : PSym → E) (fv : FSym → ℝ) (k : QKey) (c : Coef) (q : QForm) :
    QForm.den pv fv ((k, c) :: q) = ((c : ℚ) : ℝ) * qkeyVal pv fv k + QForm.den pv fv q :=
  List.sum_cons

attribute [gram_expand] qkeyVal

/-- the same expansion with the 28 commutations listed by hand: expand both sides into the 36 oriented inner
products of the 8 symbols and compare as rational functions of the parameters.  The obligations below do not call it. -/
macro "gen_den" pv:ident : tactic => `(tactic| (
  simp only [QForm.den, List.map_cons, List.map_nil, List.sum_cons, List.sum_nil, qkeyVal,
    inner_sub_left, inner_sub_right, real_inner_smul_left, real_inner_smul_right,
    real_inner_comm ($pv .gi) ($pv .xi), real_inner_comm ($pv .xj) ($pv .xi), real_inner_comm ($pv .gj) ($pv .xi),
    real_inner_comm ($pv .xs) ($pv .xi), real_inner_comm ($pv .v) ($pv .xi), real_inner_comm ($pv .gik) ($pv .xi),
    real_inner_comm ($pv .gjk) ($pv .xi),
    real_inner_comm ($pv .xj) ($pv .gi), real_inner_comm ($pv .gj) ($pv .gi), real_inner_comm ($pv .xs) ($pv .gi),
    real_inner_comm ($pv .v) ($pv .gi), real_inner_comm ($pv .gik) ($pv .gi), real_inner_comm ($pv .gjk) ($pv .gi),
    real_inner_comm ($pv .gj) ($pv .xj), real_inner_comm ($pv .xs) ($pv .xj), real_inner_comm ($pv .v) ($pv .xj),
    real_inner_comm ($pv .gik) ($pv .xj), real_inner_comm ($pv .gjk) ($pv .xj),
    real_inner_comm ($pv .xs) ($pv .gj), real_inner_comm ($pv .v) ($pv .gj), real_inner_comm ($pv .gik) ($pv .gj),
    real_inner_comm ($pv .gjk) ($pv .gj),
    real_inner_comm ($pv .v) ($pv .xs), real_inner_comm ($pv .gik) ($pv .xs), real_inner_comm ($pv .gjk) ($pv .xs),
    real_inner_comm ($pv .gik) ($pv .v), real_inner_comm ($pv .gjk) ($pv .v),
    real_inner_comm ($pv .gjk) ($pv .gik)]
  push_cast
  try field_simp
  try ring))

namespace Canon
variable (pv : PSym → E) (fv : FSym → ℝ)

/-- `fi - fj >= gj * (xi - xj)` -/
noncomputable def convexity : ℝ := ⟪pv .gj, pv .xi - pv .xj⟫ - (fv .fi - fv .fj)
/-- `fi - fj >= gj * (xi - xj) + mu / 2 * (xi - xj) ** 2` -/
noncomputable def strongConvexity (μ : ℝ) : ℝ :=
  ⟪pv .gj, pv .xi - pv .xj⟫ + μ / 2 * ⟪pv .xi - pv .xj, pv .xi - pv .xj⟫ - (fv .fi - fv .fj)
/-- `gi ** 2 <= M ** 2` -/
noncomputable def gradBound (M : ℝ) : ℝ := ⟪pv .gi, pv .gi⟫ - M ^ 2
/-- `fi == 0` -/
noncomputable def valueZero : ℝ := fv .fi
/-- `0 >= gj * (xi - xj)` -/
noncomputable def normalCone : ℝ := ⟪pv .gj, pv .xi - pv .xj⟫
/-- `(xi - xj) ** 2 <= D ** 2` -/
noncomputable def diameter (D : ℝ) : ℝ := ⟪pv .xi - pv .xj, pv .xi - pv .xj⟫ - D ^ 2
/-- `fi - fj >= gj * (xi - xj) + 1 / (2 L) * gj ** 2` -/
noncomputable def qg (L : ℝ) : ℝ :=
  ⟪pv .gj, pv .xi - pv .xj⟫ + 1 / (2 * L) * ⟪pv .gj, pv .gj⟫ - (fv .fi - fv .fj)
/-- `gi * xi - fi == 0` -/
noncomputable def fenchel : ℝ := ⟪pv .gi, pv .xi⟫ - fv .fi
/-- `xj * (gi - gj) <= 0` -/
noncomputable def supportConvexity : ℝ := ⟪pv .xj, pv .gi - pv .gj⟫
/-- `(gi - gj) * (xi - xj) - mu * (xi - xj) ** 2 >= 0` -/
noncomputable def strongMonotone (μ : ℝ) : ℝ :=
  -(⟪pv .gi - pv .gj, pv .xi - pv .xj⟫ - μ * ⟪pv .xi - pv .xj, pv .xi - pv .xj⟫)
/-- `(gi - gj) ** 2 - L ** 2 * (xi - xj) ** 2 <= 0` -/
noncomputable def lipschitz (L : ℝ) : ℝ :=
  ⟪pv .gi - pv .gj, pv .gi - pv .gj⟫ - L ^ 2 * ⟪pv .xi - pv .xj, pv .xi - pv .xj⟫
/-- smooth convex interpolation -/
noncomputable def sc (L : ℝ) : ℝ :=
  ⟪pv .gj, pv .xi - pv .xj⟫ + 1 / (2 * L) * ⟪pv .gi - pv .gj, pv .gi - pv .gj⟫ - (fv .fi - fv .fj)
/-- smooth (non-convex) interpolation -/
noncomputable def smooth (L : ℝ) : ℝ :=
  (-(L / 4) * ⟪pv .xi - pv .xj, pv .xi - pv .xj⟫ + 1 / 2 * ⟪pv .gi + pv .gj, pv .xi - pv .xj⟫
    + 1 / (4 * L) * ⟪pv .gi - pv .gj, pv .gi - pv .gj⟫) - (fv .fi - fv .fj)
/-- smooth strongly convex interpolation -/
noncomputable def ssc (μ L : ℝ) : ℝ :=
  (⟪pv .gj, pv .xi - pv .xj⟫ + 1 / (2 * L) * ⟪pv .gi - pv .gj, pv .gi - pv .gj⟫
    + μ / (2 * (1 - μ / L)) * ⟪pv .xi - pv .xj - (1 / L) • (pv .gi - pv .gj),
                                pv .xi - pv .xj - (1 / L) • (pv .gi - pv .gj)⟫) - (fv .fi - fv .fj)
/-- `fi - fs == 0.5 * (xi - xs) * gi` -/
noncomputable def quadValue : ℝ := (fv .fi - fv .fs) - 1 / 2 * ⟪pv .xi - pv .xs, pv .gi⟫
/-- `(xi - xs) * gj == (xj - xs) * gi` -/
noncomputable def quadSymmetry : ℝ := ⟪pv .xi - pv .xs, pv .gj⟫ - ⟪pv .xj - pv .xs, pv .gi⟫
/-- `(L + mu) * gi * (xj - xs) - gi * gj - mu * L * (xi - xs) * (xj - xs)` -/
noncomputable def quadLmi (μ L : ℝ) : ℝ :=
  (L + μ) * ⟪pv .gi, pv .xj - pv .xs⟫ - ⟪pv .gi, pv .gj⟫ - μ * L * ⟪pv .xi - pv .xs, pv .xj - pv .xs⟫
/-- `(gi - gj) * (xi - xj) - beta * (gi - gj) ** 2 >= 0` -/
noncomputable def cocoercive (β : ℝ) : ℝ :=
  -(⟪pv .gi - pv .gj, pv .xi - pv .xj⟫ - β * ⟪pv .gi - pv .gj, pv .gi - pv .gj⟫)
/-- `(gi - gj) * (xi - xj) >= 0` -/
noncomputable def monotone : ℝ := -⟪pv .gi - pv .gj, pv .xi - pv .xj⟫
/-- `(gi - gj) * (xi - xj) + rho * (gi - gj) ** 2 >= 0` -/
noncomputable def negComonotone (ρ : ℝ) : ℝ :=
  -(⟪pv .gi - pv .gj, pv .xi - pv .xj⟫ + ρ * ⟪pv .gi - pv .gj, pv .gi - pv .gj⟫)
/-- `(gi - gj) ** 2 - (xi - xj) ** 2 <= 0` -/
noncomputable def nonexpansive : ℝ :=
  ⟪pv .gi - pv .gj, pv .gi - pv .gj⟫ - ⟪pv .xi - pv .xj, pv .xi - pv .xj⟫
/-- `v ** 2 - (xi - gi) * v <= 0` -/
noncomputable def infimalDisplacement : ℝ := ⟪pv .v, pv .v⟫ - ⟪pv .xi - pv .gi, pv .v⟫
/-- `xi * vj == yi * uj` with `(xj, gj) = (u, v)` -/
noncomputable def adjoint : ℝ := ⟪pv .xi, pv .gj⟫ - ⟪pv .gi, pv .xj⟫
/-- `L ** 2 * xi * xj - yi * yj` -/
noncomputable def normLmi (L : ℝ) : ℝ := L ^ 2 * ⟪pv .xi, pv .xj⟫ - ⟪pv .gi, pv .gj⟫
noncomputable def normLmiDiagJ (L : ℝ) : ℝ := L ^ 2 * ⟪pv .xj, pv .xj⟫ - ⟪pv .gj, pv .gj⟫
/-- `xi * gj == - xj * gi` -/
noncomputable def antisymmetry : ℝ := ⟪pv .xi, pv .gj⟫ + ⟪pv .xj, pv .gi⟫
/-- `xi * gj == xj * gi` -/
noncomputable def symmetry : ℝ := ⟪pv .xi, pv .gj⟫ - ⟪pv .xj, pv .gi⟫
/-- `L * gi * xj - gi * gj - mu * L * xi * xj + mu * xi * gj` -/
noncomputable def symLmi (μ L : ℝ) : ℝ :=
  L * ⟪pv .gi, pv .xj⟫ - ⟪pv .gi, pv .gj⟫ - μ * L * ⟪pv .xi, pv .xj⟫ + μ * ⟪pv .xi, pv .gj⟫
/-- block-smooth: `fi - fj >= gj * (xi - xj) + 1 / (2 L_k) * (gik - gjk) ** 2` -/
noncomputable def blockSmooth (Lk : ℝ) : ℝ :=
  ⟪pv .gj, pv .xi - pv .xj⟫ + 1 / (2 * Lk) * ⟪pv .gik - pv .gjk, pv .gik - pv .gjk⟫ - (fv .fi - fv .fj)
end Canon

/-! ### What a canonical form says about the samples

Stated for the forms that several classes share, or that are used in both directions (soundness
in `Props/C03`, sufficiency in `Props/C04Suff`). -/

theorem real_inner_self_le_sq_iff {a : E} {c : ℝ} (hc : 0 ≤ c) : ⟪a, a⟫ ≤ c ^ 2 ↔ ‖a‖ ≤ c := by
  rw [real_inner_self_eq_norm_sq]
  exact sq_le_sq₀ (norm_nonneg a) hc

namespace Canon

theorem convexity_nonpos_iff {pv : PSym → E} {fv : FSym → ℝ} :
    convexity pv fv ≤ 0 ↔ fv .fi ≥ fv .fj + ⟪pv .gj, pv .xi - pv .xj⟫ := by
  rw [convexity, sub_nonpos, le_sub_iff_add_le']

theorem strongConvexity_nonpos_iff {pv : PSym → E} {fv : FSym → ℝ} {μ : ℝ} :
    strongConvexity pv fv μ ≤ 0 ↔
      fv .fi ≥ fv .fj + ⟪pv .gj, pv .xi - pv .xj⟫ + μ / 2 * ‖pv .xi - pv .xj‖ ^ 2 := by
  rw [strongConvexity, real_inner_self_eq_norm_sq, sub_nonpos, le_sub_iff_add_le', add_assoc]

theorem sc_nonpos_iff {pv : PSym → E} {fv : FSym → ℝ} {L : ℝ} :
    sc pv fv L ≤ 0 ↔
      fv .fi - fv .fj ≥ ⟪pv .gj, pv .xi - pv .xj⟫ + 1 / (2 * L) * ‖pv .gi - pv .gj‖ ^ 2 := by
  rw [sc, real_inner_self_eq_norm_sq, sub_nonpos]

theorem gradBound_nonpos_iff {pv : PSym → E} {M : ℝ} (hM : 0 ≤ M) :
    gradBound pv M ≤ 0 ↔ ‖pv .gi‖ ≤ M := by
  rw [gradBound, sub_nonpos, real_inner_self_le_sq_iff hM]

theorem diameter_nonpos_iff {pv : PSym → E} {D : ℝ} (hD : 0 ≤ D) :
    diameter pv D ≤ 0 ↔ ‖pv .xi - pv .xj‖ ≤ D := by
  rw [diameter, sub_nonpos, real_inner_self_le_sq_iff hD]

theorem lipschitz_nonpos_iff {pv : PSym → E} {L : ℝ} (hL : 0 ≤ L) :
    lipschitz pv L ≤ 0 ↔ ‖pv .gi - pv .gj‖ ≤ L * ‖pv .xi - pv .xj‖ := by
  rw [lipschitz, sub_nonpos, real_inner_self_eq_norm_sq (pv .xi - pv .xj), ← mul_pow,
    real_inner_self_le_sq_iff (mul_nonneg hL (norm_nonneg _))]

theorem strongMonotone_nonpos_iff {pv : PSym → E} {μ : ℝ} :
    strongMonotone pv μ ≤ 0 ↔
      μ * ‖pv .xi - pv .xj‖ ^ 2 ≤ ⟪pv .gi - pv .gj, pv .xi - pv .xj⟫ := by
  rw [strongMonotone, neg_nonpos, sub_nonneg, real_inner_self_eq_norm_sq]

theorem cocoercive_nonpos_iff {pv : PSym → E} {β : ℝ} :
    cocoercive pv β ≤ 0 ↔
      β * ‖pv .gi - pv .gj‖ ^ 2 ≤ ⟪pv .gi - pv .gj, pv .xi - pv .xj⟫ := by
  rw [cocoercive, neg_nonpos, sub_nonneg, real_inner_self_eq_norm_sq]

end Canon

section den
variable (pv : PSym → E) (fv : FSym → ℝ)

theorem den_ConvexFunction_convexity :
    QForm.den pv fv Gen.ConvexFunction.convexity = Canon.convexity pv fv := by
  simp only [Gen.ConvexFunction.convexity, Canon.convexity, gram_expand]
  ring
theorem den_ConvexIndicatorFunction_value (D : ℚ) :
    QForm.den pv fv (Gen.ConvexIndicatorFunction.value D) = Canon.valueZero fv := by
  simp only [Gen.ConvexIndicatorFunction.value, Canon.valueZero, gram_expand]
  ring
theorem den_ConvexIndicatorFunction_convexity (D : ℚ) :
    QForm.den pv fv (Gen.ConvexIndicatorFunction.convexity D) = Canon.normalCone pv := by
  simp only [Gen.ConvexIndicatorFunction.convexity, Canon.normalCone, gram_expand]
  ring
theorem den_ConvexIndicatorFunction_diameter (D : ℚ) :
    QForm.den pv fv (Gen.ConvexIndicatorFunction.diameter D) = Canon.diameter pv (D : ℝ) := by
  simp only [Gen.ConvexIndicatorFunction.diameter, Canon.diameter, gram_expand]
  ring
theorem den_ConvexLipschitzFunction_lipschitz_continuity (M : ℚ) :
    QForm.den pv fv (Gen.ConvexLipschitzFunction.lipschitz_continuity M) = Canon.gradBound pv (M : ℝ) := by
  simp only [Gen.ConvexLipschitzFunction.lipschitz_continuity, Canon.gradBound, gram_expand]
  ring
theorem den_ConvexLipschitzFunction_convexity (M : ℚ) :
    QForm.den pv fv (Gen.ConvexLipschitzFunction.convexity M) = Canon.convexity pv fv := by
  simp only [Gen.ConvexLipschitzFunction.convexity, Canon.convexity, gram_expand]
  ring
theorem den_ConvexQGFunction_qg_convexity (L : ℚ) (hL : L ≠ 0) :
    QForm.den pv fv (Gen.ConvexQGFunction.qg_convexity L) = Canon.qg pv fv (L : ℝ) := by
  simp only [Gen.ConvexQGFunction.qg_convexity, Canon.qg, gram_expand]
  ring
theorem den_ConvexQGFunction_convexity (L : ℚ) :
    QForm.den pv fv (Gen.ConvexQGFunction.convexity L) = Canon.convexity pv fv := by
  simp only [Gen.ConvexQGFunction.convexity, Canon.convexity, gram_expand]
  ring
theorem den_ConvexSupportFunction_fenchel_value (M : ℚ) :
    QForm.den pv fv (Gen.ConvexSupportFunction.fenchel_value M) = Canon.fenchel pv fv := by
  simp only [Gen.ConvexSupportFunction.fenchel_value, Canon.fenchel, gram_expand]
  ring
theorem den_ConvexSupportFunction_lipschitz_continuity (M : ℚ) :
    QForm.den pv fv (Gen.ConvexSupportFunction.lipschitz_continuity M) = Canon.gradBound pv (M : ℝ) := by
  simp only [Gen.ConvexSupportFunction.lipschitz_continuity, Canon.gradBound, gram_expand]
  ring
theorem den_ConvexSupportFunction_convexity (M : ℚ) :
    QForm.den pv fv (Gen.ConvexSupportFunction.convexity M) = Canon.supportConvexity pv := by
  simp only [Gen.ConvexSupportFunction.convexity, Canon.supportConvexity, gram_expand]
  ring
theorem den_RsiEbFunction_rsi (μ L : ℚ) :
    QForm.den pv fv (Gen.RsiEbFunction.rsi μ L) = Canon.strongMonotone pv (μ : ℝ) := by
  simp only [Gen.RsiEbFunction.rsi, Canon.strongMonotone, gram_expand]
  ring
theorem den_RsiEbFunction_eb (μ L : ℚ) :
    QForm.den pv fv (Gen.RsiEbFunction.eb μ L) = Canon.lipschitz pv (L : ℝ) := by
  simp only [Gen.RsiEbFunction.eb, Canon.lipschitz, gram_expand]
  ring
theorem den_SmoothConvexFunction_smoothness_convexity (L : ℚ) (hL : L ≠ 0) :
    QForm.den pv fv (Gen.SmoothConvexFunction.smoothness_convexity L) = Canon.sc pv fv (L : ℝ) := by
  simp only [Gen.SmoothConvexFunction.smoothness_convexity, Canon.sc, gram_expand]
  ring
theorem den_SmoothConvexLipschitzFunction_smoothness_convexity (L M : ℚ) (hL : L ≠ 0) :
    QForm.den pv fv (Gen.SmoothConvexLipschitzFunction.smoothness_convexity L M) = Canon.sc pv fv (L : ℝ) := by
  simp only [Gen.SmoothConvexLipschitzFunction.smoothness_convexity, Canon.sc, gram_expand]
  ring
theorem den_SmoothConvexLipschitzFunction_lipschitz_continuity (L M : ℚ) :
    QForm.den pv fv (Gen.SmoothConvexLipschitzFunction.lipschitz_continuity L M) = Canon.gradBound pv (M : ℝ) := by
  simp only [Gen.SmoothConvexLipschitzFunction.lipschitz_continuity, Canon.gradBound, gram_expand]
  ring
theorem den_SmoothFunction_smoothness (L : ℚ) (hL : L ≠ 0) :
    QForm.den pv fv (Gen.SmoothFunction.smoothness L) = Canon.smooth pv fv (L : ℝ) := by
  simp only [Gen.SmoothFunction.smoothness, Canon.smooth, gram_expand]
  ring
theorem den_SmoothStronglyConvexFunction_smoothness_strong_convexity (μ L : ℚ) (hL : L ≠ 0) (hμL : μ ≠ L) :
    QForm.den pv fv (Gen.SmoothStronglyConvexFunction.smoothness_strong_convexity μ L)
      = Canon.ssc pv fv (μ : ℝ) (L : ℝ) := by
  simp only [Gen.SmoothStronglyConvexFunction.smoothness_strong_convexity, Canon.ssc, gram_expand]
  ring
theorem den_SmoothStronglyConvexQuadraticFunction_value (μ L : ℚ) :
    QForm.den pv fv (Gen.SmoothStronglyConvexQuadraticFunction.value μ L) = Canon.quadValue pv fv := by
  simp only [Gen.SmoothStronglyConvexQuadraticFunction.value, Canon.quadValue, gram_expand]
  ring
theorem den_SmoothStronglyConvexQuadraticFunction_symmetry (μ L : ℚ) :
    QForm.den pv fv (Gen.SmoothStronglyConvexQuadraticFunction.symmetry μ L) = Canon.quadSymmetry pv := by
  simp only [Gen.SmoothStronglyConvexQuadraticFunction.symmetry, Canon.quadSymmetry, gram_expand]
  ring
theorem den_SmoothStronglyConvexQuadraticFunction_lmi0_entry (μ L : ℚ) :
    QForm.den pv fv (Gen.SmoothStronglyConvexQuadraticFunction.lmi0_entry μ L) = Canon.quadLmi pv (μ : ℝ) (L : ℝ) := by
  simp only [Gen.SmoothStronglyConvexQuadraticFunction.lmi0_entry, Canon.quadLmi, gram_expand]
  ring
theorem den_StronglyConvexFunction_strong_convexity (μ : ℚ) :
    QForm.den pv fv (Gen.StronglyConvexFunction.strong_convexity μ) = Canon.strongConvexity pv fv (μ : ℝ) := by
  simp only [Gen.StronglyConvexFunction.strong_convexity, Canon.strongConvexity, gram_expand]
  ring
theorem den_CocoerciveOperator_cocoercivity (β : ℚ) :
    QForm.den pv fv (Gen.CocoerciveOperator.cocoercivity β) = Canon.cocoercive pv (β : ℝ) := by
  simp only [Gen.CocoerciveOperator.cocoercivity, Canon.cocoercive, gram_expand]
  ring
theorem den_CocoerciveStronglyMonotoneOperator_cocoercivity (μ β : ℚ) :
    QForm.den pv fv (Gen.CocoerciveStronglyMonotoneOperator.cocoercivity μ β) = Canon.cocoercive pv (β : ℝ) := by
  simp only [Gen.CocoerciveStronglyMonotoneOperator.cocoercivity, Canon.cocoercive, gram_expand]
  ring
theorem den_CocoerciveStronglyMonotoneOperator_strong_monotonicity (μ β : ℚ) :
    QForm.den pv fv (Gen.CocoerciveStronglyMonotoneOperator.strong_monotonicity μ β) = Canon.strongMonotone pv (μ : ℝ) := by
  simp only [Gen.CocoerciveStronglyMonotoneOperator.strong_monotonicity, Canon.strongMonotone, gram_expand]
  ring
theorem den_LinearOperator_adjoint (L : ℚ) :
    QForm.den pv fv (Gen.LinearOperator.adjoint L) = Canon.adjoint pv := by
  simp only [Gen.LinearOperator.adjoint, Canon.adjoint, gram_expand]
  ring
theorem den_LinearOperator_lmi0_entry (L : ℚ) :
    QForm.den pv fv (Gen.LinearOperator.lmi0_entry L) = Canon.normLmi pv (L : ℝ) := by
  simp only [Gen.LinearOperator.lmi0_entry, Canon.normLmi, gram_expand]
  ring
theorem den_LinearOperator_lmi1_entry_jj (L : ℚ) :
    QForm.den pv fv (Gen.LinearOperator.lmi1_entry_jj L) = Canon.normLmiDiagJ pv (L : ℝ) := by
  simp only [Gen.LinearOperator.lmi1_entry_jj, Canon.normLmiDiagJ, gram_expand]
  ring
theorem den_LipschitzOperator_lipschitz_continuity (L : ℚ) :
    QForm.den pv fv (Gen.LipschitzOperator.lipschitz_continuity L) = Canon.lipschitz pv (L : ℝ) := by
  simp only [Gen.LipschitzOperator.lipschitz_continuity, Canon.lipschitz, gram_expand]
  ring
theorem den_LipschitzStronglyMonotoneOperator_strong_monotonicity (μ L : ℚ) :
    QForm.den pv fv (Gen.LipschitzStronglyMonotoneOperator.strong_monotonicity μ L) = Canon.strongMonotone pv (μ : ℝ) := by
  simp only [Gen.LipschitzStronglyMonotoneOperator.strong_monotonicity, Canon.strongMonotone, gram_expand]
  ring
theorem den_LipschitzStronglyMonotoneOperator_lipschitz_continuity (μ L : ℚ) :
    QForm.den pv fv (Gen.LipschitzStronglyMonotoneOperator.lipschitz_continuity μ L) = Canon.lipschitz pv (L : ℝ) := by
  simp only [Gen.LipschitzStronglyMonotoneOperator.lipschitz_continuity, Canon.lipschitz, gram_expand]
  ring
theorem den_MonotoneOperator_monotonicity :
    QForm.den pv fv Gen.MonotoneOperator.monotonicity = Canon.monotone pv := by
  simp only [Gen.MonotoneOperator.monotonicity, Canon.monotone, gram_expand]
  ring
theorem den_NegativelyComonotoneOperator_negative_comonotonicity (ρ : ℚ) :
    QForm.den pv fv (Gen.NegativelyComonotoneOperator.negative_comonotonicity ρ) = Canon.negComonotone pv (ρ : ℝ) := by
  simp only [Gen.NegativelyComonotoneOperator.negative_comonotonicity, Canon.negComonotone, gram_expand]
  ring
theorem den_NonexpansiveOperator_nonexpansiveness :
    QForm.den pv fv Gen.NonexpansiveOperator.nonexpansiveness = Canon.nonexpansive pv := by
  simp only [Gen.NonexpansiveOperator.nonexpansiveness, Canon.nonexpansive, gram_expand]
  ring
theorem den_NonexpansiveOperator_infimal_displacement_vector :
    QForm.den pv fv Gen.NonexpansiveOperator.infimal_displacement_vector = Canon.infimalDisplacement pv := by
  simp only [Gen.NonexpansiveOperator.infimal_displacement_vector, Canon.infimalDisplacement, gram_expand]
  ring
theorem den_SkewSymmetricLinearOperator_antisymmetric_linearity (L : ℚ) :
    QForm.den pv fv (Gen.SkewSymmetricLinearOperator.antisymmetric_linearity L) = Canon.antisymmetry pv := by
  simp only [Gen.SkewSymmetricLinearOperator.antisymmetric_linearity, Canon.antisymmetry, gram_expand]
  ring
theorem den_SkewSymmetricLinearOperator_lmi0_entry (L : ℚ) :
    QForm.den pv fv (Gen.SkewSymmetricLinearOperator.lmi0_entry L) = Canon.normLmi pv (L : ℝ) := by
  simp only [Gen.SkewSymmetricLinearOperator.lmi0_entry, Canon.normLmi, gram_expand]
  ring
theorem den_StronglyMonotoneOperator_strong_monotonicity (μ : ℚ) :
    QForm.den pv fv (Gen.StronglyMonotoneOperator.strong_monotonicity μ) = Canon.strongMonotone pv (μ : ℝ) := by
  simp only [Gen.StronglyMonotoneOperator.strong_monotonicity, Canon.strongMonotone, gram_expand]
  ring
theorem den_SymmetricLinearOperator_symmetric_linearity (μ L : ℚ) :
    QForm.den pv fv (Gen.SymmetricLinearOperator.symmetric_linearity μ L) = Canon.symmetry pv := by
  simp only [Gen.SymmetricLinearOperator.symmetric_linearity, Canon.symmetry, gram_expand]
  ring
theorem den_SymmetricLinearOperator_lmi0_entry (μ L : ℚ) :
    QForm.den pv fv (Gen.SymmetricLinearOperator.lmi0_entry μ L) = Canon.symLmi pv (μ : ℝ) (L : ℝ) := by
  simp only [Gen.SymmetricLinearOperator.lmi0_entry, Canon.symLmi, gram_expand]
  ring
theorem den_BlockSmoothConvexFunction_block (L0 L1 : ℚ) (hL : L0 ≠ 0) :
    QForm.den pv fv (Gen.BlockSmoothConvexFunction.smoothness_convexity_block L0 L1) = Canon.blockSmooth pv fv (L0 : ℝ) := by
  simp only [Gen.BlockSmoothConvexFunction.smoothness_convexity_block, Canon.blockSmooth, gram_expand]
  ring

end den
