import Mathlib.LinearAlgebra.Matrix.PosDef
import Mathlib.Analysis.Matrix.Order
import Mathlib.Tactic.Linarith

/-!
# A dual certificate bounds the objective on the whole feasible set (properties C01 / C09)
-/

open Matrix
open scoped MatrixOrder

section trace
variable {n : Type*} [Fintype n] [DecidableEq n]

theorem trace_mul_nonneg_of_posSemidef {S G : Matrix n n ℝ} (hS : S.PosSemidef) (hG : G.PosSemidef) :
    0 ≤ (S * G).trace := by
  -- `G = Bᴴ B`, and `tr(S Bᴴ B) = tr(B S Bᴴ)`
  obtain ⟨B, rfl⟩ := CStarAlgebra.nonneg_iff_eq_star_mul_self.mp hG.nonneg
  rw [← Matrix.mul_assoc, Matrix.trace_mul_comm, ← Matrix.mul_assoc]
  exact (hS.mul_mul_conjTranspose_same B).trace_nonneg
end trace

/-- Weak duality at one primal point.  If `obj − τ` is the multiplier combination of the constraint values minus the
Gram term minus the LMI terms, multipliers of inequalities are nonnegative, the point is feasible and the Gram / LMI
terms are nonnegative there, then `τ` dominates the objective at the point. -/
theorem cert_sound_abstract {ι κ : Type*} [Fintype ι] [Fintype κ]
    (obj τ : ℝ) (cons : ι → ℝ) (isEq : ι → Bool) (lam : ι → ℝ) (gramTerm : ℝ) (lmiTerm : κ → ℝ)
    (hid : obj - τ = (∑ i, lam i * cons i) - gramTerm - ∑ k, lmiTerm k)
    (hlam : ∀ i, isEq i = false → 0 ≤ lam i)
    (hfeas : ∀ i, if isEq i then cons i = 0 else cons i ≤ 0)
    (hgram : 0 ≤ gramTerm) (hlmi : ∀ k, 0 ≤ lmiTerm k) :
    obj ≤ τ := by
  have h1 : ∑ i, lam i * cons i ≤ 0 := Finset.sum_nonpos fun i _ => by
    have hi := hfeas i
    cases he : isEq i with
    | true => rw [he, if_pos rfl] at hi; rw [hi, mul_zero]
    | false => rw [he, if_neg Bool.false_ne_true] at hi; exact mul_nonpos_of_nonneg_of_nonpos (hlam i he) hi
  have h2 : 0 ≤ ∑ k, lmiTerm k := Finset.sum_nonneg (fun k _ => hlmi k)
  linarith

/-- Matrix form: the Gram term is `⟨S, G⟩` with `S ⪰ 0` and the LMI terms are `⟨Λ_k, T_k⟩`
with `Λ_k ⪰ 0`; feasibility means `G ⪰ 0`, the scalar constraints hold and every `T_k ⪰ 0`. -/
theorem cert_sound {X ι κ : Type*} [Fintype ι] [Fintype κ] {n : Type*} [Fintype n] [DecidableEq n]
    {p : κ → Type*} [∀ k, Fintype (p k)] [∀ k, DecidableEq (p k)]
    (obj : X → ℝ) (τ : ℝ) (cons : ι → X → ℝ) (isEq : ι → Bool) (lam : ι → ℝ)
    (gram : X → Matrix n n ℝ) (S : Matrix n n ℝ)
    (T : (k : κ) → X → Matrix (p k) (p k) ℝ) (Lam : (k : κ) → Matrix (p k) (p k) ℝ)
    (hid : ∀ x, obj x - τ = (∑ i, lam i * cons i x) - (S * gram x).trace - ∑ k, (Lam k * T k x).trace)
    (hlam : ∀ i, isEq i = false → 0 ≤ lam i) (hS : S.PosSemidef) (hLam : ∀ k, (Lam k).PosSemidef)
    (x : X) (hfeas : ∀ i, if isEq i then cons i x = 0 else cons i x ≤ 0)
    (hG : (gram x).PosSemidef) (hT : ∀ k, (T k x).PosSemidef) :
    obj x ≤ τ :=
  cert_sound_abstract (obj x) τ (cons · x) isEq lam (S * gram x).trace (fun k => (Lam k * T k x).trace)
    (hid x) hlam hfeas (trace_mul_nonneg_of_posSemidef hS hG)
    (fun k => trace_mul_nonneg_of_posSemidef (hLam k) (hT k))

#print axioms cert_sound
