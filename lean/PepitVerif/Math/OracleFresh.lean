import PepitVerif.Math.OracleInv

/-!
# Freshness: stationary points and fixed points

`stationary_point()` / `fixed_point()` create a *new* leaf point and call `add_point`.  The bookkeeping
is coherent because the new point cannot already be recorded anywhere: every recorded point only
mentions leaf points that exist (`Bounded`), and the new leaf has the next index.  On a composite with a
non-empty (pruned) decomposition every term therefore "needs both", and `add_point` distributes the
triplet over the terms (`addPointA_composite_inv`).
-/

namespace Pepit

/-- recorded points only mention leaf points that already exist -/
def Bounded (w : AW) : Prop := ∀ f t, t ∈ (w.getF f).pts → ∀ k ∈ Dict.keys t.x, k < w.nP

theorem bounded_counters (w : AW) (a b : Nat) (h : Bounded w) (ha : w.nP ≤ a) :
    Bounded { w with nP := a, nE := b } :=
  fun f t ht k hk => Nat.lt_of_lt_of_le (h f t ht k hk) ha

theorem bounded_record (w : AW) (f : Nat) (t : ATriple) (h : Bounded w) (hx : ∀ k ∈ Dict.keys t.x, k < w.nP) :
    Bounded (w.record f t) := by
  intro g t' ht' k hk
  rcases mem_or_eq_of_mem_record ht' with h1 | rfl
  · exact h g t' h1 k hk
  · exact hx k ((Dict.keys_prune_sublist _).subset hk)

theorem bounded_setDecomp (w : AW) (f : Nat) (d : Dict Nat) (h : Bounded w) : Bounded (w.setDecomp f d) :=
  fun g t ht => h g t (pts_setDecomp w f g d ▸ ht)

theorem bounded_oracleLeafA (w : AW) (f : Nat) (x : PDict) (h : Bounded w) (hx : ∀ k ∈ Dict.keys x, k < w.nP) :
    Bounded (oracleLeafA w f x).1 ∧ w.nP ≤ (oracleLeafA w f x).1.nP := by
  rcases oracleLeafA_cases w f x with ⟨t, _, _, e⟩ | ⟨b, v, e, _⟩ <;> rw [e]
  · exact ⟨h, Nat.le_refl _⟩
  · exact ⟨bounded_record _ f _ (bounded_counters w _ _ h (Nat.le_succ _)) fun k hk => Nat.lt_succ_of_lt (hx k hk),
      Nat.le_succ _⟩

theorem bounded_distribute (x : PDict) (terms : List (Nat × Coef)) (w : AW) (gl : PDict) (fl : EDict) (h : Bounded w)
    (hx : ∀ k ∈ Dict.keys x, k < w.nP) :
    Bounded (distribute x w terms gl fl) ∧ w.nP ≤ (distribute x w terms gl fl).nP :=
  distribute_invariant x (P := fun w' => Bounded w' ∧ w.nP ≤ w'.nP) terms w gl fl
    (fun w' tw _ ⟨hb, hn⟩ =>
      have ⟨hb', hn'⟩ := bounded_oracleLeafA w' tw.1 x hb fun k hk => Nat.lt_of_lt_of_le (hx k hk) hn
      ⟨hb', Nat.le_trans hn hn'⟩)
    (fun w' _ _ tw _ ⟨hb, hn⟩ => ⟨bounded_record w' tw.1 _ hb fun k hk => Nat.lt_of_lt_of_le (hx k hk) hn, hn⟩)
    ⟨h, Nat.le_refl _⟩

theorem bounded_addPointA (w : AW) (f : Nat) (t : ATriple) (h : Bounded w) (hx : ∀ k ∈ Dict.keys t.x, k < w.nP) :
    Bounded (addPointA w f t) ∧ w.nP ≤ (addPointA w f t).nP := by
  have h1 : Bounded (w.record f t) := bounded_record w f t h hx
  obtain e | e | e := addPointA_cases w f t <;> rw [e]
  · exact ⟨h1, Nat.le_refl _⟩
  · exact ⟨bounded_setDecomp _ _ _ h1, Nat.le_refl _⟩
  · exact bounded_distribute _ _ _ _ _ (bounded_setDecomp _ _ _ h1) fun k hk => hx k ((Dict.keys_prune_sublist _).subset hk)

theorem bounded_oracleA (w : AW) (f : Nat) (x : PDict) (h : Bounded w) (hx : ∀ k ∈ Dict.keys x, k < w.nP) :
    Bounded (oracleA w f x).1 ∧ w.nP ≤ (oracleA w f x).1.nP := by
  obtain hleaf | hcomp := Bool.eq_false_or_eq_true (w.getF f).isLeaf
  · rw [oracleA_leaf w f x hleaf]; exact bounded_oracleLeafA w f x h hx
  have h0 := bounded_setDecomp w f (Dict.prune (w.getF f).decomp) h
  obtain ⟨t, _, _, e⟩ | ⟨a, b, g, v, e, ha, _⟩ := oracleA_composite w f x hcomp <;> rw [e]
  · exact ⟨h0, Nat.le_refl _⟩
  · obtain ⟨hb, hn⟩ := bounded_addPointA _ f ⟨x, g, v⟩ (bounded_counters _ a b h0 ha)
      fun k hk => Nat.lt_of_lt_of_le (hx k hk) ha
    exact ⟨hb, Nat.le_trans ha hn⟩

theorem prune_leafPoint (c : Nat) : Dict.prune (leafPoint c) = leafPoint c :=
  Dict.prune_eq_self_iff.mpr (by simp [leafPoint])

theorem eqv_leaf_mem (a : PDict) (c : Nat) (h : Dict.eqv a (leafPoint c) = true) : c ∈ Dict.keys a := by
  simp only [Dict.eqv, leafPoint, Bool.and_eq_true, beq_iff_eq, List.all_eq_true] at h
  obtain ⟨⟨k, v⟩, rfl⟩ := List.length_eq_one_iff.mp h.1
  have := h.2 (k, v) List.mem_cons_self
  by_cases hk : k = c
  · simp [Dict.keys, hk]
  · simp [Dict.get?, List.lookup, beq_eq_false_iff_ne.mpr hk] at this

theorem lookup_fresh (w : AW) (h : Bounded w) (g : Nat) (n : Nat) (hn : w.nP ≤ n) :
    lookupTriple (w.getF g).pts (leafPoint n) = none :=
  lookupTriple_none.mpr fun t ht he =>
    absurd (h g t ht n (eqv_leaf_mem t.x n (prune_leafPoint n ▸ he))) (Nat.not_lt.mpr hn)

theorem someTermNeeds_fresh {w : AW} {f : Nat} (t : ATriple)
    (hself : ∀ tw ∈ Dict.prune (w.getF f).decomp, tw.1 ≠ f) (hne : Dict.prune (w.getF f).decomp ≠ [])
    (hnone : ∀ g, lookupTriple (w.getF g).pts (Dict.prune t.x) = none) :
    someTermNeeds w f t = true := by
  by_contra h
  obtain ⟨tw, htw⟩ := List.exists_mem_of_ne_nil _ hne
  have h2 := ((someTermNeeds_eq_false_iff t hself).mp (eq_false_of_ne_true h)).2
  exact absurd (mem_needBoth.mpr ⟨htw, hnone tw.1⟩) (by simp [h2])

/-- **`add_point` at a point that is recorded nowhere** (the situation of `stationary_point()` and
`fixed_point()`): the invariant is preserved on a leaf function and on every composite with at least one
term.  (On the zero function the triplet is recorded as given and nothing relates it to the — empty —
sum: see the known finding `KF-C07-zero-function-point`.) -/
theorem addPointA_fresh_inv (w : AW) (f : Nat) (t : ATriple) (hi : OInv w) (hf : f < w.funs.length)
    (hx : (Dict.keys t.x).Nodup) (hg : (Dict.keys t.g).Nodup) (hv : (Dict.keys t.v).Nodup)
    (hne : (w.getF f).isLeaf = false → Dict.prune (w.getF f).decomp ≠ [])
    (hnone : ∀ g, lookupTriple (w.getF g).pts (Dict.prune t.x) = none) :
    OInv (addPointA w f t) := by
  obtain hleaf | hcomp := Bool.eq_false_or_eq_true (w.getF f).isLeaf
  · rw [addPointA_leaf w f t hleaf]; exact record_leaf_inv w f t hi hleaf hx hg hv
  · have hneeds := someTermNeeds_fresh t (hi.2.1.ne_self hf hcomp) (hne hcomp) hnone
    exact addPointA_composite_inv w f t hi hf hcomp hx hg hv fun h => by rw [hneeds] at h; cases h

/-- what `stationary_point()` (`g = []`) and `fixed_point()` (`g` the new point itself) do: `add_point` at a new leaf -/
theorem addPointA_newLeaf_inv (w : AW) (f : Nat) (g : PDict) (hg : (Dict.keys g).Nodup) (hi : OInv w) (hb : Bounded w)
    (hf : f < w.funs.length) (hne : (w.getF f).isLeaf = false → Dict.prune (w.getF f).decomp ≠ []) :
    let w' := addPointA { w with nP := w.nP + 1, nE := w.nE + 1 } f ⟨leafPoint w.nP, g, leafExpr w.nE⟩
    OInv w' ∧ Bounded w' ∧ w.nP ≤ w'.nP := by
  refine ⟨addPointA_fresh_inv _ f _ (oinv_counters w _ _ hi) hf (Dict.nodup_keys_single _ _) hg (Dict.nodup_keys_single _ _) hne fun g' => ?_,
    ?_⟩
  · rw [prune_leafPoint]; exact lookup_fresh w hb g' w.nP (Nat.le_refl _)
  · obtain ⟨h1, h2⟩ := bounded_addPointA { w with nP := w.nP + 1, nE := w.nE + 1 } f ⟨leafPoint w.nP, g, leafExpr w.nE⟩
      (bounded_counters w _ _ hb (Nat.le_succ _)) (by simp [leafPoint, Dict.keys])
    exact ⟨h1, Nat.le_trans (Nat.le_succ _) h2⟩

theorem stationaryPointA_inv (w : AW) (f : Nat) (hi : OInv w) (hb : Bounded w) (hf : f < w.funs.length)
    (hne : (w.getF f).isLeaf = false → Dict.prune (w.getF f).decomp ≠ []) :
    OInv (stationaryPointA w f).1 ∧ Bounded (stationaryPointA w f).1 ∧ w.nP ≤ (stationaryPointA w f).1.nP :=
  addPointA_newLeaf_inv w f [] List.nodup_nil hi hb hf hne

theorem fixedPointA_inv (w : AW) (f : Nat) (hi : OInv w) (hb : Bounded w) (hf : f < w.funs.length)
    (hne : (w.getF f).isLeaf = false → Dict.prune (w.getF f).decomp ≠ []) :
    OInv (fixedPointA w f).1 ∧ Bounded (fixedPointA w f).1 ∧ w.nP ≤ (fixedPointA w f).1.nP :=
  addPointA_newLeaf_inv w f _ (Dict.nodup_keys_single _ _) hi hb hf hne

end Pepit
