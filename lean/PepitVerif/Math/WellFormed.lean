import PepitVerif.Math.AlgebraSem
import Mathlib.Data.List.Nodup

/-!
# Well-formedness (duplicate-free keys) is preserved by the dictionary operations and by the operators
built from them, and comparisons denote what is written (property C06).
-/

namespace Dict
variable {κ : Type} [DecidableEq κ]

theorem nodup_keys_set (d : Dict κ) (k : κ) (c : Coef) (h : (keys d).Nodup) : (keys (set d k c)).Nodup := by
  rw [keys_set]
  split
  · exact h
  · next hk => exact h.append (List.nodup_singleton k) (List.disjoint_singleton.mpr hk)

theorem nodup_keys_upsert (p : Prop) [Decidable p] (m : Dict κ) (k : κ) (c : Coef) (h : (keys m).Nodup) :
    (keys (if p then addAt m k c else set m k c)).Nodup := by
  split
  · rwa [keys_addAt]
  · exact nodup_keys_set m k c h

theorem nodup_keys_merge (d1 d2 : Dict κ) (h1 : (keys d1).Nodup) : (keys (merge d1 d2)).Nodup :=
  List.foldlRecOn (motive := fun m => (keys m).Nodup) d2 _ h1 fun m hm _ _ => nodup_keys_upsert _ m _ _ hm

theorem nodup_keys_multiply {κ₂ : Type} [DecidableEq κ₂] (d1 : Dict κ) (d2 : Dict κ₂) :
    (keys (multiply d1 d2)).Nodup :=
  List.foldlRecOn (motive := fun m => (keys m).Nodup) d1 _ List.nodup_nil fun _ hm kc _ =>
    List.foldlRecOn (motive := fun m => (keys m).Nodup) d2 _ hm fun m hm' kc' _ =>
      nodup_keys_upsert _ m (kc.1, kc'.1) _ hm'

omit [DecidableEq κ] in
theorem keys_prune_sublist (d : Dict κ) : (keys (prune d)).Sublist (keys d) := List.filter_sublist.map _

omit [DecidableEq κ] in
theorem nodup_keys_prune (d : Dict κ) (h : (keys d).Nodup) : (keys (prune d)).Nodup :=
  h.sublist (keys_prune_sublist d)

/-- `__add__` on points and on expressions: merge, then prune -/
theorem nodup_keys_add (a b : Dict κ) (ha : (keys a).Nodup) : (keys (prune (merge a b))).Nodup :=
  nodup_keys_prune _ (nodup_keys_merge a b ha)

theorem nodup_keys_foldl_add (l : List (Dict κ)) (acc : Dict κ) (h : (keys acc).Nodup) :
    (keys (l.foldl (fun m b => prune (merge m b)) acc)).Nodup :=
  List.foldlRecOn (motive := fun m => (keys m).Nodup) l _ h fun m hm b _ => nodup_keys_add m b hm

theorem denM_foldl_add {M : Type*} [AddCommGroup M] [Module ℝ M] (val : κ → M) (l : List (Dict κ))
    (hl : ∀ b ∈ l, (keys b).Nodup) (acc : Dict κ) :
    denM val (l.foldl (fun m b => prune (merge m b)) acc) = denM val acc + (l.map (denM val)).sum := by
  induction l generalizing acc with
  | nil => simp
  | cons a t ih =>
    rw [List.foldl_cons, ih (fun b hb => hl b (List.mem_cons_of_mem _ hb)),
      denM_add val acc a (hl a List.mem_cons_self), List.map_cons, List.sum_cons, add_assoc]

omit [DecidableEq κ] in
theorem nodup_keys_scale (d : Dict κ) (c : Coef) (h : (keys d).Nodup) : (keys (scale d c)).Nodup := by
  rwa [keys_scale]

omit [DecidableEq κ] in
/-- renaming the keys one to one (the product keys of `Point.__rmul__`, the reversed keys of `symmetrize_dict`) -/
theorem nodup_keys_map_key {κ' : Type} {f : κ → κ'} (hf : Function.Injective f) (d : Dict κ) (h : (keys d).Nodup) :
    (keys (d.map fun kc => (f kc.1, kc.2))).Nodup := by
  have : keys (d.map fun kc => (f kc.1, kc.2)) = (keys d).map f := by simp [keys, Function.comp_def]
  rw [this]
  exact h.map hf

omit [DecidableEq κ] in
theorem prune_no_zero (d : Dict κ) : ∀ kc ∈ prune d, kc.2 ≠ 0 :=
  fun _ h => bne_iff_ne.mp (List.mem_filter.mp h).2

omit [DecidableEq κ] in
theorem prune_eq_self_iff {d : Dict κ} : prune d = d ↔ ∀ kc ∈ d, kc.2 ≠ 0 := by
  simp [prune, List.filter_eq_self]

omit [DecidableEq κ] in
theorem prune_prune (d : Dict κ) : prune (prune d) = prune d := prune_eq_self_iff.mpr (prune_no_zero d)

end Dict

variable {E : Type*} [NormedAddCommGroup E] [InnerProductSpace ℝ E]

namespace PDict
theorem wf_add (a b : PDict) (ha : (Dict.keys a).Nodup) : (Dict.keys (add a b)).Nodup :=
  Dict.nodup_keys_add a b ha
theorem wf_smul (c : Coef) (a : PDict) (ha : (Dict.keys a).Nodup) : (Dict.keys (smul c a)).Nodup :=
  Dict.nodup_keys_scale a c ha
theorem wf_neg (a : PDict) (ha : (Dict.keys a).Nodup) : (Dict.keys (neg a)).Nodup := wf_smul _ a ha
theorem wf_sub (a b : PDict) (ha : (Dict.keys a).Nodup) : (Dict.keys (sub a b)).Nodup := wf_add a _ ha
theorem add_pruned (a b : PDict) : ∀ kc ∈ add a b, kc.2 ≠ 0 := Dict.prune_no_zero _
end PDict

theorem EKey.ip_injective : Function.Injective fun k : Nat × Nat => EKey.ip k.1 k.2 :=
  fun x y h => by cases x; cases y; simpa using h

theorem PDict.wf_ip (a b : PDict) : (Dict.keys (PDict.ip a b)).Nodup :=
  Dict.nodup_keys_map_key EKey.ip_injective _ (Dict.nodup_keys_multiply a b)

theorem PDict.wf_sq (a : PDict) : (Dict.keys (PDict.sq a)).Nodup := PDict.wf_ip a a

namespace EDict
theorem wf_add (a b : EDict) (ha : (Dict.keys a).Nodup) : (Dict.keys (add a b)).Nodup :=
  Dict.nodup_keys_add a b ha
theorem wf_smul (c : Coef) (a : EDict) (ha : (Dict.keys a).Nodup) : (Dict.keys (smul c a)).Nodup :=
  Dict.nodup_keys_scale a c ha
theorem wf_sub (a b : EDict) (ha : (Dict.keys a).Nodup) : (Dict.keys (sub a b)).Nodup := wf_add a _ ha
theorem wf_addConst (a : EDict) (c : Coef) (ha : (Dict.keys a).Nodup) :
    (Dict.keys (addConst a c)).Nodup :=
  Dict.nodup_keys_add a _ ha
end EDict

/-- a constraint holds under an interpretation -/
def ConsD.holds (v : Nat → E) (φ : Nat → ℝ) (c : ConsD) : Prop :=
  if c.isEq then EDict.den v φ c.e = 0 else EDict.den v φ c.e ≤ 0

namespace ConsD
variable (v : Nat → E) (φ : Nat → ℝ)

/-- `a <= b` is the inequality constraint whose expression denotes `a - b`. -/
theorem le_spec (a b : EDict) (hb : (Dict.keys b).Nodup) :
    (le a b).isEq = false ∧ EDict.den v φ (le a b).e = EDict.den v φ a - EDict.den v φ b ∧
    (holds v φ (le a b) ↔ EDict.den v φ a ≤ EDict.den v φ b) := by
  refine ⟨rfl, EDict.den_sub v φ a b hb, ?_⟩
  simp only [holds, le, Bool.false_eq_true, if_false, EDict.den_sub v φ a b hb, sub_nonpos]

/-- `a >= b` is the inequality constraint whose expression denotes `b - a`. -/
theorem ge_spec (a b : EDict) (hb : (Dict.keys b).Nodup) :
    (ge a b).isEq = false ∧ EDict.den v φ (ge a b).e = EDict.den v φ b - EDict.den v φ a ∧
    (holds v φ (ge a b) ↔ EDict.den v φ b ≤ EDict.den v φ a) := by
  -- `a >= b` is `-a <= -b`
  obtain ⟨h1, h2, h3⟩ := le_spec v φ (EDict.neg a) (EDict.neg b) (EDict.wf_smul _ b hb)
  rw [EDict.den_neg, EDict.den_neg] at h2 h3
  exact ⟨h1, h2.trans (by ring), h3.trans neg_le_neg_iff⟩

/-- `a == b` is the equality constraint whose expression denotes `a - b`. -/
theorem eq_spec (a b : EDict) (hb : (Dict.keys b).Nodup) :
    (eq a b).isEq = true ∧ EDict.den v φ (eq a b).e = EDict.den v φ a - EDict.den v φ b ∧
    (holds v φ (eq a b) ↔ EDict.den v φ a = EDict.den v φ b) := by
  refine ⟨rfl, EDict.den_sub v φ a b hb, ?_⟩
  simp only [holds, eq, if_true, EDict.den_sub v φ a b hb, sub_eq_zero]

end ConsD

#print axioms ConsD.ge_spec
#print axioms Dict.nodup_keys_merge
