import PepitVerif.Math.WellFormed
import PepitModel.Steps

/-!
# Semantics of the step formulas (`Model/Steps`, namespace `StepForm`)
-/

open RealInnerProductSpace

variable {E : Type*} [NormedAddCommGroup E] [InnerProductSpace ℝ E]

theorem EDict.wf_neg (a : EDict) (ha : (Dict.keys a).Nodup) : (Dict.keys (EDict.neg a)).Nodup :=
  EDict.wf_smul _ a ha

namespace Pepit.StepForm

/-- **`x0 - gamma * g` denotes `x0 − γ·g`** -/
theorem den_gradStep (v : Nat → E) (x0 g : PDict) (γ : Coef) (hg : (Dict.keys g).Nodup) :
    PDict.den v (gradStep x0 γ g) = PDict.den v x0 - ((γ : ℚ) : ℝ) • PDict.den v g := by
  unfold gradStep
  rw [PDict.den_sub v x0 _ (PDict.wf_smul γ g hg), PDict.den_smul]

/-- **inexact gradient**: the recorded expression is `‖gx0 − dx0‖² − ε²` (absolute) or
`‖gx0 − dx0‖² − ε²‖gx0‖²` (relative) -/
theorem den_inexactGradient (v : Nat → E) (φ : Nat → ℝ) (gx0 dx0 : PDict) (ε : Coef) (rel : Bool)
    (hd : (Dict.keys dx0).Nodup) :
    EDict.den v φ (inexactGradient gx0 dx0 ε rel) =
      ‖PDict.den v gx0 - PDict.den v dx0‖ ^ 2 -
        ((ε : ℚ) : ℝ) ^ 2 * (if rel then ‖PDict.den v gx0‖ ^ 2 else 1) := by
  unfold inexactGradient
  cases rel with
  | true =>
    rw [if_pos rfl, if_pos rfl, EDict.den_sub v φ _ _ (EDict.wf_smul _ _ (PDict.wf_ip _ _)), EDict.den_smul,
      den_ip_self, den_ip_self, PDict.den_sub v gx0 dx0 hd]
    push_cast; ring
  | false =>
    rw [if_neg Bool.false_ne_true, if_neg Bool.false_ne_true, EDict.den_subConst, den_ip_self,
      PDict.den_sub v gx0 dx0 hd]
    push_cast; ring

/-- **exact line search**: `⟪x − x0, gx⟫` and `⟪d, gx⟫` -/
theorem den_linesearchMain (v : Nat → E) (φ : Nat → ℝ) (x x0 gx : PDict) (h0 : (Dict.keys x0).Nodup) :
    EDict.den v φ (linesearchMain x x0 gx) = ⟪PDict.den v x - PDict.den v x0, PDict.den v gx⟫ := by
  unfold linesearchMain; rw [den_ip, PDict.den_sub v x x0 h0]

theorem den_linesearchDir (v : Nat → E) (φ : Nat → ℝ) (d gx : PDict) :
    EDict.den v φ (linesearchDir d gx) = ⟪PDict.den v d, PDict.den v gx⟫ := by
  unfold linesearchDir; rw [den_ip]

/-- **ε-subgradient**: `f0 + (⟪g0, y⟫ − fy) − ⟪g0, x0⟫` -/
theorem den_epsSubgradient (v : Nat → E) (φ : Nat → ℝ) (f0 fy : EDict) (g0 y x0 : PDict)
    (hfy : (Dict.keys fy).Nodup) :
    EDict.den v φ (epsSubgradient f0 g0 y fy x0) =
      EDict.den v φ f0 + (⟪PDict.den v g0, PDict.den v y⟫ - EDict.den v φ fy) - ⟪PDict.den v g0, PDict.den v x0⟫ := by
  unfold epsSubgradient
  rw [EDict.den_sub v φ _ _ (PDict.wf_ip _ _), EDict.den_add v φ _ _ (EDict.wf_sub _ _ (PDict.wf_ip _ _)),
    EDict.den_sub v φ _ _ hfy, den_ip, den_ip]

/-- `eps_sub = fx − fw − ⟪v, x − w⟫` -/
theorem den_epsSub (vv : Nat → E) (φ : Nat → ℝ) (fx fw : EDict) (v x w : PDict)
    (hfw : (Dict.keys fw).Nodup) (hw : (Dict.keys w).Nodup) :
    EDict.den vv φ (epsSub fx fw v x w) =
      EDict.den vv φ fx - EDict.den vv φ fw - ⟪PDict.den vv v, PDict.den vv x - PDict.den vv w⟫ := by
  unfold epsSub
  rw [EDict.den_sub vv φ _ _ (PDict.wf_ip _ _), EDict.den_sub vv φ _ _ hfw, den_ip, PDict.den_sub vv x w hw]

/-- **PD_gapII**: the recorded `‖e‖²/2` -/
theorem den_gapII (vv : Nat → E) (φ : Nat → ℝ) (e : PDict) :
    EDict.den vv φ (gapII e) = ‖PDict.den vv e‖ ^ 2 / 2 := by
  unfold gapII EDict.div
  rw [EDict.den_smul, den_ip_self]; push_cast; ring

/-- **PD_gapIII**: the recorded `γ·eps_sub` -/
theorem den_gapIII (vv : Nat → E) (φ : Nat → ℝ) (γ : Coef) (v x w : PDict) (fx fw : EDict)
    (hfw : (Dict.keys fw).Nodup) (hw : (Dict.keys w).Nodup) :
    EDict.den vv φ (gapIII γ v x w fx fw) =
      ((γ : ℚ) : ℝ) * (EDict.den vv φ fx - EDict.den vv φ fw - ⟪PDict.den vv v, PDict.den vv x - PDict.den vv w⟫) := by
  unfold gapIII
  rw [EDict.den_smul, den_epsSub vv φ fx fw v x w hfw hw]

/-- **PD_gapI**: `‖x − x0 + γ v‖²/2 + γ·eps_sub` -/
theorem den_gapI (vv : Nat → E) (φ : Nat → ℝ) (x x0 v w : PDict) (γ : Coef) (fx fw : EDict)
    (h0 : (Dict.keys x0).Nodup) (hv : (Dict.keys v).Nodup) (hfw : (Dict.keys fw).Nodup) (hw : (Dict.keys w).Nodup)
    (hfx : (Dict.keys fx).Nodup) :
    EDict.den vv φ (gapI x x0 γ v w fx fw) =
      ‖PDict.den vv x - PDict.den vv x0 + ((γ : ℚ) : ℝ) • PDict.den vv v‖ ^ 2 / 2 +
        ((γ : ℚ) : ℝ) * (EDict.den vv φ fx - EDict.den vv φ fw - ⟪PDict.den vv v, PDict.den vv x - PDict.den vv w⟫) := by
  have hes : (Dict.keys (gapIII γ v x w fx fw)).Nodup := EDict.wf_smul _ _ (EDict.wf_sub _ _ (EDict.wf_sub _ _ hfx))
  -- the left side of PD_gapII at `e = x − x0 + γ v` plus the left side of PD_gapIII
  rw [show gapI x x0 γ v w fx fw = EDict.add (gapII (gapIe x x0 γ v)) (gapIII γ v x w fx fw) from rfl,
    EDict.den_add vv φ _ _ hes, den_gapII, den_gapIII vv φ γ v x w fx fw hfw hw, gapIe,
    PDict.den_add vv _ _ (PDict.wf_smul γ v hv), PDict.den_sub vv x x0 h0, PDict.den_smul]

/-- PD_gapII: `x = x0 − γ gx + e`, a gradient step plus `e` -/
theorem den_gapIIx (vv : Nat → E) (x0 gx e : PDict) (γ : Coef) (hg : (Dict.keys gx).Nodup) (he : (Dict.keys e).Nodup) :
    PDict.den vv (gapIIx x0 γ gx e) = PDict.den vv x0 - ((γ : ℚ) : ℝ) • PDict.den vv gx + PDict.den vv e := by
  rw [show gapIIx x0 γ gx e = PDict.add (gradStep x0 γ gx) e from rfl, PDict.den_add vv _ _ he,
    den_gradStep vv x0 gx γ hg]

/-- PD_gapIII: `v = (x0 − x)/γ` -/
theorem den_gapIIIv (vv : Nat → E) (x0 x : PDict) (γ : Coef) (hx : (Dict.keys x).Nodup) :
    PDict.den vv (gapIIIv x0 x γ) = (1 / ((γ : ℚ) : ℝ)) • (PDict.den vv x0 - PDict.den vv x) := by
  unfold gapIIIv
  rw [PDict.den_div, PDict.den_sub vv x0 x hx]; push_cast; rfl

end Pepit.StepForm
