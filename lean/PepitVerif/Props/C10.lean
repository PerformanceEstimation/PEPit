import PepitModel.Ref
import PepitVerif.Math.Convex
import Mathlib.Analysis.Real.Sqrt
import Mathlib.Algebra.Order.BigOperators.Group.Finset

/-!
# Property C10: shipped examples agree with their published closed-form rates

What a proof assistant can contribute here is limited and stated plainly: the published closed forms
are transcribed once, independently of the example files, as executable definitions (`Model/Ref`,
20 families, each with its documented validity range as a `Bool`-valued function of the `Float` parameters); the check evaluates
them through the model driver on parameter grids *inside* those ranges and compares them with the
value each example computes (relative `1e-3`) and with the closed form the example itself returns.
That the SDP optimum equals the closed form for all parameters is, per family, a theorem of the
optimisation literature and is **not** formalised.  Proved here:
* the rate of the gradient-descent contraction example is attained by real members of the class
  (1-D quadratics of curvature `μ` and `L`), so any sound bound is at least the closed form — together
  with C09 this pins the computed value from both sides for that family;
* for one proximal-point step on a 1-D quadratic, that the resolvent `x/(1+γc)` satisfies the relation the step records
  (`prox_quadratic`);
* for gradient descent, the subgradient method and the proximal gradient method, that the closed form is an upper bound
  for every member, every number of steps and every dimension.

That the "useless partition" reformulation is the identity is `one_block_identity` (`Math/PartitionSem`, C15).
-/

namespace Pepit.C10
open RealInnerProductSpace

variable {E : Type*} [NormedAddCommGroup E] [InnerProductSpace ℝ E]

theorem quadratic_is_member (c μ L : ℝ) (hμ : μ ≤ c) (hL : c ≤ L) (x y : ℝ) :
    c / 2 * y ^ 2 ≥ c / 2 * x ^ 2 + (c * x) * (y - x) + μ / 2 * (y - x) ^ 2 ∧
    c / 2 * y ^ 2 ≤ c / 2 * x ^ 2 + (c * x) * (y - x) + L / 2 * (y - x) ^ 2 := by
  -- the value at `y` is the tangent at `x` plus exactly `c/2 (y − x)²`
  have hsq := sq_nonneg (y - x)
  constructor
  · linear_combination (1 / 2) * mul_le_mul_of_nonneg_right hμ hsq
  · linear_combination (1 / 2) * mul_le_mul_of_nonneg_right hL hsq

/-- **the closed form `max((1−γμ)², (1−γL)²)ⁿ` is attained**: after `n` gradient steps on the member
of curvature `c ∈ {μ, L}` the squared distance of two runs is `((1−γc)²)ⁿ` times the initial one -/
theorem gd_contraction_attained (c γ : ℝ) (n : Nat) (x y : ℝ) :
    (((fun z => z - γ * (c * z))^[n]) x - ((fun z => z - γ * (c * z))^[n]) y) ^ 2
      = ((1 - γ * c) ^ 2) ^ n * (x - y) ^ 2 := by
  induction n generalizing x y with
  | zero => simp
  | succ n ih =>
    -- one step multiplies the difference by `1 − γc`
    rw [Function.iterate_succ_apply, Function.iterate_succ_apply, ih]
    ring

/-- one proximal step on `(c/2)·x²` is the resolvent `x / (1 + γc)`, a linear map of factor `1/(1+γc)`: it satisfies the
recorded relation `x⁺ = x − γ·c·x⁺` -/
theorem prox_quadratic (c γ x : ℝ) (h : 1 + γ * c ≠ 0) :
    x / (1 + γ * c) = x - γ * (c * (x / (1 + γ * c))) := by
  field_simp; ring

/-- non-vacuity of the transcribed table: the gradient-descent closed form is found under the name the check asks for
(its validity range and value are `Float` functions, which the driver evaluates and the kernel does not) -/
example : (Pepit.Ref.find "unconstrained_convex_minimization.gradient_descent").isSome = true := by decide

/-- scalar core: with `a = ‖Δx‖²`, `b = ⟪Δg, Δx⟫`, `c = ‖Δg‖²`, the three consequences of lower curvature `μ` and
upper curvature `L` give the contraction of one gradient step for every `γ ≥ 0`:
`(1 − γμ)² a − (a − 2γb + γ²c) = γ² · slack h1 + γ (2 − γ(L + μ)) · slack h2`, and the same with `L`, `h3` for `μ`, `h2`
and the opposite sign of `2 − γ(L + μ)` -/
theorem contraction_scalar (μ L γ a b c : ℝ) (hγ : 0 ≤ γ) (ha : 0 ≤ a)
    (h1 : c + μ * L * a ≤ (L + μ) * b) (h2 : μ * a ≤ b) (h3 : b ≤ L * a) :
    a - 2 * γ * b + γ ^ 2 * c ≤ max ((1 - γ * μ) ^ 2) ((1 - γ * L) ^ 2) * a := by
  have hc := mul_le_mul_of_nonneg_left h1 (sq_nonneg γ)
  rcases le_total (γ * (L + μ)) 2 with hcase | hcase
  · -- short steps: the `μ` side is the worst
    have hb := mul_le_mul_of_nonneg_left h2 (mul_nonneg hγ (sub_nonneg.mpr hcase))
    have hle := mul_le_mul_of_nonneg_right (le_max_left ((1 - γ * μ) ^ 2) ((1 - γ * L) ^ 2)) ha
    linear_combination hc + hb + hle
  · -- long steps: the `L` side is the worst
    have hb := mul_le_mul_of_nonneg_left h3 (mul_nonneg hγ (sub_nonneg.mpr hcase))
    have hle := mul_le_mul_of_nonneg_right (le_max_right ((1 - γ * μ) ^ 2) ((1 - γ * L) ^ 2)) ha
    linear_combination hc + hb + hle

/-- `n` gradient steps from `x` -/
def gdIter (g : E → E) (γ : ℝ) : Nat → E → E
  | 0, x => x
  | n + 1, x => gdIter g γ n (x - γ • g x)

/-- `gdIter` is the iteration of the step map, in which `gd_contraction_attained` is stated -/
theorem gdIter_eq_iterate (g : E → E) (γ : ℝ) (n : Nat) (x : E) : gdIter g γ n x = (fun z => z - γ • g z)^[n] x := by
  induction n generalizing x with
  | zero => rfl
  | succ n ih => exact ih _

theorem gdIter_succ' (g : E → E) (γ : ℝ) (n : Nat) (x : E) :
    gdIter g γ (n + 1) x = gdIter g γ n x - γ • g (gdIter g γ n x) := by
  rw [gdIter_eq_iterate, gdIter_eq_iterate, Function.iterate_succ_apply']

theorem gdIter_stationary (g : E → E) (γ : ℝ) (xs : E) (hxs : g xs = 0) (n : Nat) : gdIter g γ n xs = xs := by
  rw [gdIter_eq_iterate]
  exact Function.iterate_fixed (by rw [hxs, smul_zero, sub_zero]) n

theorem le_pow_mul_of_step (u : Nat → ℝ) (ρ R : ℝ) (hρ : 0 ≤ ρ) (n : Nat)
    (hstep : ∀ k, k < n → u (k + 1) ≤ ρ * u k) (h0 : u 0 ≤ R) : u n ≤ ρ ^ n * R := by
  induction n with
  | zero => rwa [pow_zero, one_mul]
  | succ n ih =>
    calc u (n + 1) ≤ ρ * u n := hstep n (Nat.lt_succ_self n)
      _ ≤ ρ * (ρ ^ n * R) := mul_le_mul_of_nonneg_left (ih fun k hk => hstep k (Nat.lt_succ_of_lt hk)) hρ
      _ = ρ ^ (n + 1) * R := by ring

section Bounds

variable (f : E → ℝ) (g : E → E) (μ L γ : ℝ) (hμL : μ < L) (hγ : 0 ≤ γ)
  (hlo : ∀ x y, f y ≥ f x + ⟪g x, y - x⟫ + μ / 2 * ‖y - x‖ ^ 2)
  (hup : ∀ x y, f y ≤ f x + ⟪g x, y - x⟫ + L / 2 * ‖y - x‖ ^ 2)
include hμL hγ hlo hup

/-- one gradient step contracts squared distances by `max((1−γμ)², (1−γL)²)` whenever `f` has lower curvature `μ` and
upper curvature `L`, `μ < L` of any sign -/
theorem gd_contraction_of_bounds (x y : E) :
    ‖(x - γ • g x) - (y - γ • g y)‖ ^ 2 ≤ max ((1 - γ * μ) ^ 2) ((1 - γ * L) ^ 2) * ‖x - y‖ ^ 2 := by
  rw [sub_sub_sub_comm, ← smul_sub, norm_sub_smul_sq, real_inner_comm]
  exact contraction_scalar μ L γ _ _ _ hγ (sq_nonneg _) (coercive_of_bounds f g μ L hμL hlo hup x y)
    (inner_grad_sub_ge f g μ hlo x y) (inner_grad_sub_le f g L hup x y)

/-- `R2` is free so that the `n`-step statements below can read this with the initial distance, with a bound on it, and with
the second run resting at a stationary point -/
theorem gd_contraction_n_of_bounds (n : Nat) (x y : E) (R2 : ℝ) (h0 : ‖x - y‖ ^ 2 ≤ R2) :
    ‖gdIter g γ n x - gdIter g γ n y‖ ^ 2 ≤ max ((1 - γ * μ) ^ 2) ((1 - γ * L) ^ 2) ^ n * R2 := by
  refine le_pow_mul_of_step (fun k => ‖gdIter g γ k x - gdIter g γ k y‖ ^ 2) _ _
    (le_max_of_le_left (sq_nonneg _)) n (fun k _ => ?_) h0
  rw [gdIter_succ', gdIter_succ']
  exact gd_contraction_of_bounds f g μ L γ hμL hγ hlo hup _ _

end Bounds

/-- **upper side of the gradient-descent contraction example**: for every `μ`-strongly convex,
`L`-smooth `f` (first-order form) and every `γ ≥ 0`, one gradient step from any two points contracts
squared distances by `max((1−γμ)², (1−γL)²)` — the closed form the example returns (per step) -/
theorem gd_contraction_upper (f : E → ℝ) (g : E → E) (μ L γ : ℝ) (hμ : 0 < μ) (hμL : μ < L) (hγ : 0 ≤ γ)
    (hconv : ∀ x y, f y ≥ f x + ⟪g x, y - x⟫ + μ / 2 * ‖y - x‖ ^ 2)
    (hsm : ∀ x y, f y ≤ f x + ⟪g x, y - x⟫ + L / 2 * ‖y - x‖ ^ 2) (x y : E) :
    ‖(x - γ • g x) - (y - γ • g y)‖ ^ 2 ≤ max ((1 - γ * μ) ^ 2) ((1 - γ * L) ^ 2) * ‖x - y‖ ^ 2 :=
  gd_contraction_of_bounds f g μ L γ hμL hγ hconv hsm x y

/-- **the closed form of `tutorials.gradient_descent_contraction` (and of `proximal_gradient` with a
zero non-smooth part) is an upper bound for every member and every number of steps**: `n` gradient steps
contract squared distances by `max((1−γμ)², (1−γL)²)ⁿ` — the value `Ref.table` returns (`powN (fmax …) n`) -/
theorem gd_contraction_n (f : E → ℝ) (g : E → E) (μ L γ : ℝ) (hμ : 0 < μ) (hμL : μ < L) (hγ : 0 ≤ γ)
    (hconv : ∀ x y, f y ≥ f x + ⟪g x, y - x⟫ + μ / 2 * ‖y - x‖ ^ 2)
    (hsm : ∀ x y, f y ≤ f x + ⟪g x, y - x⟫ + L / 2 * ‖y - x‖ ^ 2) (n : Nat) (x y : E) :
    ‖gdIter g γ n x - gdIter g γ n y‖ ^ 2
      ≤ max ((1 - γ * μ) ^ 2) ((1 - γ * L) ^ 2) ^ n * ‖x - y‖ ^ 2 :=
  gd_contraction_n_of_bounds f g μ L γ hμL hγ hconv hsm n x y _ le_rfl

/-- **no real run beats the bound of the gradient-descent contraction example** (property C09 for this
family, all parameters, all members, all dimensions, all starting points): if `‖x0 − x⋆‖² ≤ R²` then after `n`
steps `‖x_n − x⋆‖² ≤ max((1−γμ)², (1−γL)²)ⁿ · R²`, the value the example returns (closed form, and — by the
correspondence checks — the computed one) for the initial condition `R² = 1` -/
theorem gd_no_run_beats_bound (f : E → ℝ) (g : E → E) (μ L γ : ℝ) (hμ : 0 < μ) (hμL : μ < L) (hγ : 0 ≤ γ)
    (hconv : ∀ x y, f y ≥ f x + ⟪g x, y - x⟫ + μ / 2 * ‖y - x‖ ^ 2)
    (hsm : ∀ x y, f y ≤ f x + ⟪g x, y - x⟫ + L / 2 * ‖y - x‖ ^ 2) (xs : E) (hxs : g xs = 0) (n : Nat) (x0 : E)
    (R2 : ℝ) (h0 : ‖x0 - xs‖ ^ 2 ≤ R2) :
    ‖gdIter g γ n x0 - xs‖ ^ 2 ≤ max ((1 - γ * μ) ^ 2) ((1 - γ * L) ^ 2) ^ n * R2 := by
  have h := gd_contraction_n_of_bounds f g μ L γ hμL hγ hconv hsm n x0 xs R2 h0
  rwa [gdIter_stationary g γ xs hxs n] at h

/-- in particular the distance to a minimiser (`g x⋆ = 0`) contracts at that rate: the statement of the
example (`‖x_n − x⋆‖² ≤ ρⁿ ‖x_0 − x⋆‖²`) -/
theorem gd_distance_to_optimum (f : E → ℝ) (g : E → E) (μ L γ : ℝ) (hμ : 0 < μ) (hμL : μ < L) (hγ : 0 ≤ γ)
    (hconv : ∀ x y, f y ≥ f x + ⟪g x, y - x⟫ + μ / 2 * ‖y - x‖ ^ 2)
    (hsm : ∀ x y, f y ≤ f x + ⟪g x, y - x⟫ + L / 2 * ‖y - x‖ ^ 2) (xs : E) (hxs : g xs = 0) (n : Nat) (x : E) :
    ‖gdIter g γ n x - xs‖ ^ 2 ≤ max ((1 - γ * μ) ^ 2) ((1 - γ * L) ^ 2) ^ n * ‖x - xs‖ ^ 2 :=
  gd_no_run_beats_bound f g μ L γ hμ hμL hγ hconv hsm xs hxs n x _ le_rfl

/-- the subgradient method: `x_{k+1} = x_k − γ g_k`, with `g_k` the subgradient used at step `k` -/
def subgIter (g : Nat → E) (γ : ℝ) (x0 : E) : Nat → E
  | 0 => x0
  | k + 1 => subgIter g γ x0 k - γ • g k

theorem subgIter_eq_gdIter (g : E → E) (d : Nat → E) (γ : ℝ) (x0 : E) (n : Nat)
    (hd : ∀ k, k < n → d k = g (subgIter d γ x0 k)) : subgIter d γ x0 n = gdIter g γ n x0 := by
  induction n with
  | zero => rfl
  | succ n ih =>
    rw [subgIter, gdIter_succ', ← ih fun k hk => hd k (Nat.lt_succ_of_lt hk), hd n (Nat.lt_succ_self n)]

/-- one step of the subgradient method from `x` along `d`: expand `‖x − γ d − x⋆‖²`, bound `⟪d, x − x⋆⟫` from below by the
subgradient inequality towards `x⋆` and `‖d‖²` by `M²` -/
theorem subg_step (f : E → ℝ) (γ M : ℝ) (hγ : 0 ≤ γ) (x d xs : E)
    (hsub : f xs ≥ f x + ⟪d, xs - x⟫) (hM : ‖d‖ ≤ M) :
    ‖x - γ • d - xs‖ ^ 2 + 2 * γ * (f x - f xs) ≤ ‖x - xs‖ ^ 2 + γ ^ 2 * M ^ 2 := by
  have hg : ‖d‖ ^ 2 ≤ M ^ 2 := pow_le_pow_left₀ (norm_nonneg _) hM 2
  rw [inner_sub_swap] at hsub
  rw [norm_step_sub_sq]
  linear_combination (2 * γ) * hsub + γ ^ 2 * hg

theorem subg_telescope (f : E → ℝ) (g : Nat → E) (γ M : ℝ) (hγ : 0 ≤ γ) (x0 xs : E) (n : Nat)
    (hsub : ∀ k ≤ n, f xs ≥ f (subgIter g γ x0 k) + ⟪g k, xs - subgIter g γ x0 k⟫)
    (hM : ∀ k ≤ n, ‖g k‖ ≤ M) :
    ‖subgIter g γ x0 (n + 1) - xs‖ ^ 2 + 2 * γ * (Finset.sum (Finset.range (n + 1)) (fun k => f (subgIter g γ x0 k) - f xs))
      ≤ ‖x0 - xs‖ ^ 2 + (n + 1) * (γ ^ 2 * M ^ 2) := by
  induction n with
  | zero =>
    simp only [Finset.sum_range_one, Nat.cast_zero, zero_add, one_mul]
    exact subg_step f γ M hγ x0 (g 0) xs (hsub 0 le_rfl) (hM 0 le_rfl)
  | succ n ih =>
    rw [Finset.sum_range_succ, subgIter]
    push_cast
    linear_combination ih (fun k hk => hsub k (Nat.le_succ_of_le hk)) (fun k hk => hM k (Nat.le_succ_of_le hk))
      + subg_step f γ M hγ _ _ xs (hsub (n + 1) le_rfl) (hM (n + 1) le_rfl)

/-- **the closed form of `subgradient_method` is an upper bound for every member and every number of steps**: for a
convex function with subgradients bounded by `M` along the run, `‖x0 − x⋆‖ ≤ R` and any step `γ > 0`, the best
iterate satisfies `min_k f(x_k) − f⋆ ≤ (R² + (n+1) γ² M²) / (2 γ (n+1))` (stated for some `k ≤ n`) -/
theorem subgradient_bound (f : E → ℝ) (g : Nat → E) (γ M R : ℝ) (hγ : 0 < γ) (x0 xs : E)
    (hsub : ∀ k y, f y ≥ f (subgIter g γ x0 k) + ⟪g k, y - subgIter g γ x0 k⟫)
    (hM : ∀ k, ‖g k‖ ≤ M) (hR : ‖x0 - xs‖ ≤ R) (n : Nat) :
    ∃ k, k ≤ n ∧ f (subgIter g γ x0 k) - f xs ≤ (R ^ 2 + (n + 1) * (γ ^ 2 * M ^ 2)) / (2 * γ * (n + 1)) := by
  have htel := subg_telescope f g γ M hγ.le x0 xs n (fun k _ => hsub k xs) (fun k _ => hM k)
  have hR2 : ‖x0 - xs‖ ^ 2 ≤ R ^ 2 := pow_le_pow_left₀ (norm_nonneg _) hR 2
  have hlast : 0 ≤ ‖subgIter g γ x0 (n + 1) - xs‖ ^ 2 := sq_nonneg _
  have hpos : 0 < 2 * γ * ((n : ℝ) + 1) := by positivity
  -- the smallest of the `n + 1` gaps is at most their mean, and the telescoped inequality bounds the mean
  obtain ⟨B, hB⟩ : ∃ B, B = (R ^ 2 + (n + 1) * (γ ^ 2 * M ^ 2)) / (2 * γ * (n + 1)) := ⟨_, rfl⟩
  have hBmul : B * (2 * γ * (n + 1)) = R ^ 2 + (n + 1) * (γ ^ 2 * M ^ 2) := by rw [hB, div_mul_cancel₀ _ hpos.ne']
  have hsum : Finset.sum (Finset.range (n + 1)) (fun k => f (subgIter g γ x0 k) - f xs)
      ≤ Finset.sum (Finset.range (n + 1)) (fun _ => B) := by
    rw [Finset.sum_const, Finset.card_range, nsmul_eq_mul]
    push_cast
    refine le_of_mul_le_mul_left ?_ (mul_pos two_pos hγ)
    linear_combination htel + hR2 + hlast - hBmul
  obtain ⟨k, hk, hle⟩ := Finset.exists_le_of_sum_le Finset.nonempty_range_add_one hsum
  exact ⟨k, Finset.mem_range_succ_iff.mp hk, hB ▸ hle⟩

/-- with the step of the example, `γ = R / (M √(n+1))`, the bound is the published `M R / √(n+1)` -/
theorem subgradient_closed_form (M R : ℝ) (hM : 0 < M) (hR : 0 < R) (n : Nat) :
    (R ^ 2 + (n + 1) * ((R / (M * Real.sqrt (n + 1))) ^ 2 * M ^ 2)) / (2 * (R / (M * Real.sqrt (n + 1))) * (n + 1))
      = M * R / Real.sqrt (n + 1) := by
  field_simp
  rw [Real.sq_sqrt n.cast_add_one_pos.le]
  ring

/-- **proximal steps are nonexpansive**, in the form PEPit encodes them: `u = a − γ s_u`, `v = b − γ s_v` with
`s_u ∈ ∂h(u)`, `s_v ∈ ∂h(v)` for a convex `h` (subgradient inequalities) and `γ ≥ 0` -/
theorem prox_nonexpansive (h : E → ℝ) (γ : ℝ) (hγ : 0 ≤ γ) (a b u v su sv : E)
    (hu : u = a - γ • su) (hv : v = b - γ • sv)
    (hsu : ∀ y, h y ≥ h u + ⟪su, y - u⟫) (hsv : ∀ y, h y ≥ h v + ⟪sv, y - v⟫) :
    ‖u - v‖ ^ 2 ≤ ‖a - b‖ ^ 2 := by
  -- monotonicity of the subdifferential; then `a − b = (u − v) + γ (s_u − s_v)` is expanded
  have h1 := hsu v
  have h2 := hsv u
  rw [inner_sub_swap] at h1
  have hmono : ⟪u - v, su - sv⟫ = ⟪su, u - v⟫ - ⟪sv, u - v⟫ := by rw [real_inner_comm, inner_sub_left]
  have hab : a - b = (u - v) + γ • (su - sv) := by rw [hu, hv, smul_sub]; abel
  rw [hab, norm_add_smul_sq]
  linear_combination (2 * γ) * h1 + (2 * γ) * h2 - (2 * γ) * hmono + γ ^ 2 * sq_nonneg ‖su - sv‖

/-- **one proximal-gradient step contracts by the closed form of `proximal_gradient`** (the same factor as gradient
descent): `f` `μ`-strongly convex and `L`-smooth, `h` convex, any two starting points -/
theorem pg_contraction (f : E → ℝ) (g : E → E) (h : E → ℝ) (μ L γ : ℝ) (hμ : 0 < μ) (hμL : μ < L) (hγ : 0 ≤ γ)
    (hconv : ∀ x y, f y ≥ f x + ⟪g x, y - x⟫ + μ / 2 * ‖y - x‖ ^ 2)
    (hsm : ∀ x y, f y ≤ f x + ⟪g x, y - x⟫ + L / 2 * ‖y - x‖ ^ 2)
    (x y u v su sv : E)
    (hu : u = (x - γ • g x) - γ • su) (hv : v = (y - γ • g y) - γ • sv)
    (hsu : ∀ z, h z ≥ h u + ⟪su, z - u⟫) (hsv : ∀ z, h z ≥ h v + ⟪sv, z - v⟫) :
    ‖u - v‖ ^ 2 ≤ max ((1 - γ * μ) ^ 2) ((1 - γ * L) ^ 2) * ‖x - y‖ ^ 2 :=
  le_trans (prox_nonexpansive h γ hγ _ _ u v su sv hu hv hsu hsv)
    (gd_contraction_upper f g μ L γ hμ hμL hγ hconv hsm x y)

end Pepit.C10

#print axioms Pepit.C10.gd_contraction_attained
#print axioms Pepit.C10.quadratic_is_member
#print axioms Pepit.C10.gd_contraction_upper
#print axioms Pepit.C10.gd_contraction_n
#print axioms Pepit.C10.subgradient_bound
#print axioms Pepit.C10.pg_contraction
