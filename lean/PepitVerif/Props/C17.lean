import PepitModel.Pairs

/-!
# Property C17: dual tables report each multiplier at the pair of points it belongs to

Model: `tableTwo` (`Model/Pairs`, used by the world model for every two-list condition) and
`pairTable`.  The table of a condition has one row per sample of list 1, one column per sample of
list 2, and the entry at `(i, j)` is the constraint generated for that ordered pair, `0` (`none`)
exactly where the pair is skipped.  `get_class_constraints_duals` maps tables entry-wise
(`dualTable`).
-/

namespace Pepit.C17

variable {α : Type} [DecidableEq α]

theorem tableTwo_rows (l1 l2 : List α) (s : Bool) : (tableTwo l1 l2 s).length = l1.length := by
  simp [tableTwo]

theorem tableTwo_cols (l1 l2 : List α) (s : Bool) : ∀ r ∈ tableTwo l1 l2 s, r.length = l2.length := by
  intro r hr
  simp only [tableTwo, List.mem_map] at hr
  obtain ⟨_, _, rfl⟩ := hr
  simp

/-- **entry specification**: the entry at `(i, j)` is the pair `(l1[i], l2[j])` itself unless the
pair is skipped (same sample, or lower triangle of a symmetric condition), in which case it is `0` -/
theorem tableTwo_entry (l1 l2 : List α) (s : Bool) (i j : Nat) (hi : i < l1.length) (hj : j < l2.length) :
    ((tableTwo l1 l2 s)[i]?.bind (·[j]?)) =
      some (if skipTwo (decide (l1[i] = l2[j])) s i j then none else some (l1[i], l2[j])) := by
  simp [tableTwo, hi, hj]

/-- the constraints listed for the solver are exactly the non-zero entries of the table, row by row -/
theorem pairsTwo_eq_table (l1 l2 : List α) (s : Bool) :
    pairsTwo l1 l2 s = (tableTwo l1 l2 s).flatMap (fun r => r.filterMap id) := by
  unfold pairsTwo tableTwo
  rw [List.flatMap_map]
  congr 1
  funext ai
  rw [List.filterMap_map]
  rfl

/-- `get_class_constraints_duals`: entry-wise image of a table under the dual-value map -/
def dualTable {β : Type} (dual : α × α → β) (zero : β) (t : List (List (Option (α × α)))) : List (List β) :=
  t.map (·.map (fun c => match c with | some p => dual p | none => zero))

/-- **the dual table has the multiplier of the constraint of pair `(i, j)` at `(i, j)`** and `0`
where no constraint exists -/
theorem dualTable_entry {β : Type} (dual : α × α → β) (zero : β) (l1 l2 : List α) (s : Bool)
    (i j : Nat) (hi : i < l1.length) (hj : j < l2.length) :
    ((dualTable dual zero (tableTwo l1 l2 s))[i]?.bind (·[j]?)) =
      some (if skipTwo (decide (l1[i] = l2[j])) s i j then zero else dual (l1[i], l2[j])) := by
  obtain ⟨r, hr, hrj⟩ := Option.bind_eq_some_iff.mp (tableTwo_entry l1 l2 s i j hi hj)
  simp only [dualTable, List.getElem?_map, hr, Option.map_some, Option.bind_some, hrj]
  cases skipTwo (decide (l1[i] = l2[j])) s i j <;> rfl

/-- non-vacuity: stationary list `[x*]` against all samples `[x₀, x*, x₁]` -/
example : tableTwo [7] [3, 7, 9] false = [[some (7, 3), none, some (7, 9)]] := by decide

end Pepit.C17

#print axioms Pepit.C17.tableTwo_entry
#print axioms Pepit.C17.dualTable_entry
#print axioms Pepit.C17.pairsTwo_eq_table
