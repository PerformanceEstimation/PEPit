import PepitModel.Solve
import Mathlib.Data.Real.Basic
import Mathlib.Tactic.NormNum.Inv

/-!
# Property C14: dimension-reduction post-processing keeps the guarantee it started from

Three parts.
* data flow of `_solve_with_wrapper` (`Model/Solve`, compared call by call with the real method under
  a scripted wrapper, for every option combination): the multipliers, `PEP.residual` and the returned
  dual value are those of the **first** solve, for every heuristic.
* the optimisation argument, for an arbitrary problem and a solver that returns an optimal point of
  the problem it is given: the heuristic problem only *adds* the constraint `objective ≥ wc − tol`,
  hence its solutions are feasible for the original problem, lose at most `tol`, and for the trace
  heuristic do not increase the trace.
* a failing solve of the dimension-reduction stage (`solveFlowUpTo`): the flow stops there and keeps the multipliers of
  the first solve and the instance of the last successful one; and the front-end `PEP.solve` (`solveFront`).
-/

namespace Pepit.C14

/-- the `logdet` loop in closed form: round `i` is `heuristic(W)` followed by solve number `k + i` -/
theorem logdetRounds_eq (n k : Nat) :
    logdetRounds n k = (List.range n).flatMap fun i => [.heuristic, .solve (k + i)] := by
  induction n generalizing k with
  | zero => rfl
  | succ n ih =>
    rw [logdetRounds, ih, List.range_succ_eq_map, List.flatMap_cons, List.flatMap_map]
    simp only [Nat.add_zero, Nat.add_assoc, Nat.add_comm 1]

theorem solve_mem_logdetRounds (n j k : Nat) (h1 : j ≤ k) (h2 : k < j + n) : WCall.solve k ∈ logdetRounds n j := by
  rw [logdetRounds_eq, List.mem_flatMap]
  refine ⟨k - j, List.mem_range.mpr (Nat.sub_lt_left_of_lt_add h1 h2), ?_⟩
  rw [Nat.add_sub_cancel' h1]
  exact .tail _ (.head _)

/-- the flow in closed form.  After the first solve and `assign_dual_values`: `prepare_heuristic` if a heuristic was asked
for, then the rounds `heuristic(W); solve` numbered `2 … primalFrom` — one for `"trace"`, `N` for `"logdetN"`, none for an
invalid string -/
theorem solveFlow_calls (h : Heur) (m : Mode) :
    (solveFlow h m).calls =
      .solve 1 :: .recover 1 ::
        ((if h = .none then [] else [.prepare]) ++ logdetRounds ((solveFlow h m).primalFrom - 1) 2) := by
  cases h <;> rfl

/-- **the certificate is the one of the original problem**: whatever heuristic is requested, the
multipliers are recovered once, after the first solve and before the heuristic touches the problem -/
theorem duals_from_first_solve (h : Heur) (m : Mode) : (solveFlow h m).dualsFrom = 1 := rfl

theorem recover_once_after_first_solve (h : Heur) (m : Mode) :
    (solveFlow h m).calls.take 2 = [.solve 1, .recover 1] ∧
    ((solveFlow h m).calls.drop 2).all (fun c => match c with | .recover _ => false | _ => true) = true := by
  rw [solveFlow_calls]
  refine ⟨rfl, ?_⟩
  rw [List.drop_succ_cons, List.drop_succ_cons, List.drop_zero, List.all_append, logdetRounds_eq]
  -- neither `[.prepare]` nor a round holds a `recover`
  split <;> simp

/-- the primal instance is the one of the last solve (`N` rounds for `logdetN`) -/
theorem primal_from_last_solve (n : Nat) (m : Mode) :
    (solveFlow .none m).primalFrom = 1 ∧ (solveFlow .trace m).primalFrom = 2 ∧
    (solveFlow (.logdet n) m).primalFrom = n + 1 := ⟨rfl, rfl, rfl⟩

/-- the `logdetN` loop issues `N` solver calls (with the first solve: `1`, `2`, `N + 1` calls for `None`, `"trace"`, `"logdetN"`) -/
theorem logdet_solves (n k : Nat) :
    ((logdetRounds n k).filter (fun c => match c with | .solve _ => true | _ => false)).length = n := by
  simp [logdetRounds_eq, List.filter_flatMap, List.length_flatMap, List.map_const']

theorem invalid_rejected (m : Mode) (h : Heur) :
    (solveFlow .invalid m).raises = true ∧ (solveFlow h .invalid).raises = true := by
  constructor
  · rfl
  · cases h <;> simp [solveFlow]

theorem no_failure_is_solveFlow (h : Heur) (m : Mode) : solveFlowUpTo h m 0 = solveFlow h m := by
  simp [solveFlowUpTo]

/-- **a failing heuristic solve never changes the certificate**: the multipliers stay those of the first solve -/
theorem heuristic_failure_keeps_duals (h : Heur) (m : Mode) (failAt : Nat) :
    (solveFlowUpTo h m failAt).dualsFrom = 1 := by
  simp only [solveFlowUpTo]
  -- the failing branch replaces `calls` and `primalFrom` only
  split <;> exact duals_from_first_solve h m

theorem solveFlowUpTo_fail (h : Heur) (m : Mode) (failAt : Nat)
    (h2 : 2 ≤ failAt) (hl : failAt ≤ (solveFlow h m).primalFrom) :
    solveFlowUpTo h m failAt =
      { solveFlow h m with calls := takeThrough (.solve failAt) (solveFlow h m).calls, primalFrom := failAt - 1 } :=
  if_pos ⟨h2, hl⟩

/-- the instance kept is the one of the solve just before the failing one — a solve that succeeded, the first one at least -/
theorem heuristic_failure_instance (h : Heur) (m : Mode) (failAt : Nat)
    (h2 : 2 ≤ failAt) (hl : failAt ≤ (solveFlow h m).primalFrom) :
    (solveFlowUpTo h m failAt).primalFrom = failAt - 1 ∧ 1 ≤ (solveFlowUpTo h m failAt).primalFrom ∧
    (solveFlowUpTo h m failAt).primalFrom < failAt := by
  rw [solveFlowUpTo_fail h m failAt h2 hl]
  show failAt - 1 = failAt - 1 ∧ 1 ≤ failAt - 1 ∧ failAt - 1 < failAt
  omega

theorem takeThrough_of_mem (c : WCall) (l : List WCall) (hc : c ∈ l) :
    takeThrough c l = l.takeWhile (· ≠ c) ++ [c] := by
  induction l with
  | nil => cases hc
  | cons x xs ih =>
    by_cases hx : x = c
    · simp [takeThrough, hx]
    · simp [takeThrough, hx, ih ((List.mem_cons.mp hc).resolve_left (Ne.symm hx))]

theorem solve_mem_calls (h : Heur) (m : Mode) (k : Nat) (h1 : 1 ≤ k) (hl : k ≤ (solveFlow h m).primalFrom) :
    .solve k ∈ (solveFlow h m).calls := by
  rw [solveFlow_calls]
  rcases Nat.eq_or_lt_of_le h1 with rfl | h2
  · exact List.mem_cons_self
  · exact .tail _ (.tail _ (List.mem_append_right _ (solve_mem_logdetRounds _ 2 k h2 (by omega))))

/-- nothing is issued after the failing solve: it is the last call of the flow -/
theorem heuristic_failure_stops (h : Heur) (m : Mode) (failAt : Nat)
    (h2 : 2 ≤ failAt) (hl : failAt ≤ (solveFlow h m).primalFrom) :
    (solveFlowUpTo h m failAt).calls.getLast? = some (.solve failAt) := by
  rw [solveFlowUpTo_fail h m failAt h2 hl, takeThrough_of_mem _ _ (solve_mem_calls h m failAt (Nat.le_of_succ_le h2) hl),
    List.getLast?_concat]

example : solveFlowUpTo (.logdet 3) .dual 3 =
    { calls := [.solve 1, .recover 1, .prepare, .heuristic, .solve 2, .heuristic, .solve 3], dualsFrom := 1, primalFrom := 2, raises := false } := by
  decide
example : solveFlowUpTo .trace .primal 2 =
    { calls := [.solve 1, .recover 1, .prepare, .heuristic, .solve 2], dualsFrom := 1, primalFrom := 1, raises := false } := by
  decide

/-- **the front-end does not touch the flow**: whichever back-end name is asked for, installed or not, licensed or not,
the calls, the solve the multipliers come from and the solve the instance comes from are those of `_solve_with_wrapper`
(the flow stream routes two programs in five through `PEP.solve` with every spelling of the names and an absent MOSEK) -/
theorem front_end_transparent (name : String) (installed licensed : String → Bool) (h : Heur) (m : Mode) :
    (solveFront name installed licensed h m).2 = solveFlow h m := rfl

/-- a back-end that is not installed, or whose licence check fails, is replaced by cvxpy; an installed and licensed one is kept -/
theorem fallback_is_cvxpy (name : String) (installed licensed : String → Bool)
    (h : installed name.toLower = false ∨ licensed name.toLower = false) :
    resolveWrapper name installed licensed = "cvxpy" := by
  unfold resolveWrapper
  rcases h with h | h
  · simp [h]
  · by_cases hi : installed name.toLower = true <;> simp [hi, h]

variable {X : Type}

/-- the problem the heuristic solves: the original constraints plus `objective ≥ wc − tol` -/
def HeurFeasible (feasible : X → Prop) (obj : X → ℝ) (wc tol : ℝ) (x : X) : Prop :=
  feasible x ∧ obj x ≥ wc - tol

/-- **the returned instance still satisfies every original constraint** -/
theorem heuristic_feasible (feasible : X → Prop) (obj : X → ℝ) (wc tol : ℝ) (x : X)
    (h : HeurFeasible feasible obj wc tol x) : feasible x := h.1

/-- **the primal value stays within the stated tolerance of the optimum** -/
theorem primal_within_tol (feasible : X → Prop) (obj : X → ℝ) (wc tol : ℝ) (x : X)
    (h : HeurFeasible feasible obj wc tol x) : wc - tol ≤ obj x := h.2

/-- so the heuristic problem is never infeasible -/
theorem first_solution_feasible (feasible : X → Prop) (obj : X → ℝ) (tol : ℝ) (htol : 0 ≤ tol) (x₁ : X)
    (h₁ : feasible x₁) : HeurFeasible feasible obj (obj x₁) tol x₁ := ⟨h₁, sub_le_self _ htol⟩

/-- **trace heuristic: the trace does not increase** — `x₂` minimises `tr` over the heuristic
problem built from the value of `x₁` -/
theorem trace_nonincreasing (feasible : X → Prop) (obj tr : X → ℝ) (tol : ℝ) (htol : 0 ≤ tol) (x₁ x₂ : X)
    (h₁ : feasible x₁)
    (h₂ : ∀ y, HeurFeasible feasible obj (obj x₁) tol y → tr x₂ ≤ tr y) : tr x₂ ≤ tr x₁ :=
  h₂ x₁ (first_solution_feasible feasible obj tol htol x₁ h₁)

theorem bound_still_valid (feasible : X → Prop) (obj : X → ℝ) (τ wc tol : ℝ) (x : X)
    (hτ : ∀ y, feasible y → obj y ≤ τ) (h : HeurFeasible feasible obj wc tol x) : obj x ≤ τ := hτ x h.1

/-- non-vacuity: on `X = ℝ` with `x ≤ 1`, objective `x`, `wc = 1`, `tol = 1/2`, the point `1/2` is feasible for the heuristic problem -/
example : HeurFeasible (fun x : ℝ => x ≤ 1) (fun x => x) 1 (1 / 2) (1 / 2) := by
  constructor <;> norm_num
example : solveFlow (.logdet 2) .dual =
    { calls := [.solve 1, .recover 1, .prepare, .heuristic, .solve 2, .heuristic, .solve 3],
      dualsFrom := 1, primalFrom := 3, raises := false } := by decide

end Pepit.C14

#print axioms Pepit.C14.recover_once_after_first_solve
#print axioms Pepit.C14.trace_nonincreasing
