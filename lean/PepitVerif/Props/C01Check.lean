import PepitVerif.Props.C01
import PepitVerif.Math.Certificate

/-!
# Property C01: what a passing `check_feasibility` proves

`check_feasibility` rebuilds, from the multipliers it reads back from the objects, the expression
`ident = objective − (Σ λ_c·expr_c − ⟨residual, Gram⟩ − Σ ⟨Λ_k, T_k⟩)`, symmetrises and prunes it, returns its
constant as the dual value and the `ℓ¹` norm of the rest as `remaining`.

`check_passes_bound_valid` composes `reconstruction_spec` (C01), weak duality (`cert_sound`) and the sign conditions
the same function checks: **if the remaining terms are `0`, the multipliers of the inequalities are nonnegative and the
residual and the matrix multipliers are positive semidefinite, then the returned dual value bounds the objective at
every feasible point** — every symmetric positive semidefinite Gram matrix and function values satisfying the sent
constraints and LMIs — so in particular at the Gram matrix of every real execution (C09).

`identOf` builds `ident` with the model's own operators for scalar constraints (the part PEPit builds with
`Σ dual·expression`), and `evalGF_identOf` proves that it denotes the combination, so for models without LMIs
the hypothesis `hident` is discharged (`scalar_check_passes_bound_valid`).
-/

open Matrix

namespace Pepit.C01

/-- the leading `n × n` block of a Gram function as a matrix -/
def gramOf (n : Nat) (G : Nat → Nat → ℝ) : Matrix (Fin n) (Fin n) ℝ := Matrix.of fun i j => G i.1 j.1

/-- **a passing `check_feasibility` certifies the returned value** -/
theorem check_passes_bound_valid {ι κ : Type*} [Fintype ι] [Fintype κ] (n : Nat)
    {p : κ → Type*} [∀ k, Fintype (p k)] [∀ k, DecidableEq (p k)]
    (obj : EDict) (cons : ι → EDict) (isEq : ι → Bool) (lam : ι → ℝ)
    (S : Matrix (Fin n) (Fin n) ℝ)
    (T : (k : κ) → p k → p k → EDict) (Lam : (k : κ) → Matrix (p k) (p k) ℝ)
    (ident : EDict) (hnd : (Dict.keys ident).Nodup)
    -- `remaining_terms == 0`
    (hrem : (EDict.finishReconstruction ident).2 = 0)
    -- `ident` is the expression `check_feasibility` builds from the exposed multipliers
    (hident : ∀ (G : Nat → Nat → ℝ) (F : Nat → ℝ), (∀ i j, G i j = G j i) →
      EDict.evalGF G F ident = EDict.evalGF G F obj -
        ((∑ i, lam i * EDict.evalGF G F (cons i)) - (S * gramOf n G).trace -
          ∑ k, (Lam k * Matrix.of (fun a b => EDict.evalGF G F (T k a b))).trace))
    -- the sign conditions
    (hlam : ∀ i, isEq i = false → 0 ≤ lam i) (hS : S.PosSemidef) (hLam : ∀ k, (Lam k).PosSemidef)
    -- any feasible point of the problem that was sent
    (G : Nat → Nat → ℝ) (F : Nat → ℝ) (hG : ∀ i j, G i j = G j i) (hGpsd : (gramOf n G).PosSemidef)
    (hfeas : ∀ i, if isEq i then EDict.evalGF G F (cons i) = 0 else EDict.evalGF G F (cons i) ≤ 0)
    (hT : ∀ k, (Matrix.of (fun a b => EDict.evalGF G F (T k a b))).PosSemidef) :
    EDict.evalGF G F obj ≤ (((EDict.finishReconstruction ident).1 : ℚ) : ℝ) := by
  -- weak duality on the space of symmetric `(G, F)`; the identity is `hident` with `reconstruction_spec` on its left
  let X := { x : (Nat → Nat → ℝ) × (Nat → ℝ) // ∀ i j, x.1 i j = x.1 j i }
  exact cert_sound (X := X) (fun x => EDict.evalGF x.1.1 x.1.2 obj) _
    (fun i x => EDict.evalGF x.1.1 x.1.2 (cons i)) isEq lam (fun x => gramOf n x.1.1) S
    (fun k x => Matrix.of (fun a b => EDict.evalGF x.1.1 x.1.2 (T k a b))) Lam
    (fun x => by
      rw [← reconstruction_spec x.1.1 x.1.2 x.2 ident hnd hrem, hident x.1.1 x.1.2 x.2, sub_sub_cancel])
    hlam hS hLam ⟨(G, F), hG⟩ hfeas hGpsd hT

/-- `Σ dual·expression` accumulated as `check_feasibility` does, starting from `acc` -/
def combo : EDict → List (Coef × EDict) → EDict
  | acc, [] => acc
  | acc, (l, c) :: rest => combo (EDict.add acc (EDict.smul l c)) rest

/-- `objective − Σ λ_c · expr_c` -/
def identOf (obj : EDict) (lc : List (Coef × EDict)) : EDict := EDict.sub obj (combo [] lc)

theorem combo_eq_foldl : ∀ (lc : List (Coef × EDict)) (acc : EDict),
    combo acc lc = (lc.map fun x => EDict.smul x.1 x.2).foldl (fun m b => Dict.prune (Dict.merge m b)) acc
  | [], _ => rfl
  | _ :: rest, _ => combo_eq_foldl rest _

theorem wf_combo (lc : List (Coef × EDict)) (acc : EDict) (h : (Dict.keys acc).Nodup) :
    (Dict.keys (combo acc lc)).Nodup := by
  rw [combo_eq_foldl]; exact Dict.nodup_keys_foldl_add _ acc h

theorem evalGF_combo (G : Nat → Nat → ℝ) (F : Nat → ℝ) (lc : List (Coef × EDict)) (acc : EDict)
    (h : ∀ x ∈ lc, (Dict.keys x.2).Nodup) :
    EDict.evalGF G F (combo acc lc) =
      EDict.evalGF G F acc + (lc.map (fun x => ((x.1 : ℚ) : ℝ) * EDict.evalGF G F x.2)).sum := by
  rw [combo_eq_foldl, EDict.evalGF, Dict.denM_foldl_add _ _ (by
    intro b hb
    obtain ⟨x, hx, rfl⟩ := List.mem_map.mp hb
    exact EDict.wf_smul _ _ (h x hx)), List.map_map]
  exact congrArg _ (congrArg _ (List.map_congr_left fun x _ => EDict.evalGF_smul G F x.1 x.2))

/-- **`identOf` denotes `objective − Σ λ·c`** for duplicate-free constraint expressions -/
theorem evalGF_identOf (G : Nat → Nat → ℝ) (F : Nat → ℝ) (obj : EDict) (lc : List (Coef × EDict))
    (h : ∀ x ∈ lc, (Dict.keys x.2).Nodup) :
    EDict.evalGF G F (identOf obj lc) =
      EDict.evalGF G F obj - (lc.map (fun x => ((x.1 : ℚ) : ℝ) * EDict.evalGF G F x.2)).sum := by
  rw [identOf, EDict.evalGF_sub G F obj _ (wf_combo lc [] List.nodup_nil), evalGF_combo G F lc [] h,
    show EDict.evalGF G F [] = 0 from rfl, zero_add]

/-- non-vacuity: objective `f₀`, one constraint `f₀ − ⟨p₀,p₀⟩ ≤ 0` with multiplier 1, one constraint
`⟨p₀,p₀⟩ − 1 ≤ 0` with multiplier 1: the identity reduces to the constant 1, nothing remains -/
example : EDict.finishReconstruction
    (identOf [(.f 0, 1)] [(1, [(.f 0, 1), (.ip 0 0, -1)]), (1, [(.ip 0 0, 1), (.one, -1)])]) = (1, 0) := by
  decide +kernel

/-- `⟨S, Gram⟩` as an expression over the leaf points `0 … n−1` (PEPit: `np.dot(points, S·points)`) -/
def gramDict (n : Nat) (S : Nat → Nat → Coef) : EDict :=
  (List.range n).flatMap (fun i => (List.range n).map (fun j => (EKey.ip i j, S i j)))

theorem wf_gramDict (n : Nat) (S : Nat → Nat → Coef) : (Dict.keys (gramDict n S)).Nodup := by
  have : Dict.keys (gramDict n S) = (List.range n ×ˢ List.range n).map fun p => EKey.ip p.1 p.2 := by
    simp [Dict.keys, gramDict, List.product, List.map_flatMap, Function.comp_def, SProd.sprod]
  rw [this]
  exact (List.nodup_range.product List.nodup_range).map EKey.ip_injective

theorem evalGF_gramDict (n : Nat) (S : Nat → Nat → Coef) (G : Nat → Nat → ℝ) (F : Nat → ℝ) :
    EDict.evalGF G F (gramDict n S) = ∑ i : Fin n, ∑ j : Fin n, ((S i.1 j.1 : ℚ) : ℝ) * G i.1 j.1 := by
  simp only [EDict.evalGF, Dict.denM, gramDict, List.sum_map_flatMap, List.map_map, Function.comp_def,
    List.sum_map_range, Finset.sum_range, keyValGF, smul_eq_mul]

/-- the rational residual as a real matrix -/
def matOf (n : Nat) (S : Nat → Nat → Coef) : Matrix (Fin n) (Fin n) ℝ := Matrix.of fun i j => ((S i.1 j.1 : ℚ) : ℝ)

theorem trace_matOf_gramOf (n : Nat) (S : Nat → Nat → Coef) (G : Nat → Nat → ℝ) (hG : ∀ i j, G i j = G j i) :
    (matOf n S * gramOf n G).trace = ∑ i : Fin n, ∑ j : Fin n, ((S i.1 j.1 : ℚ) : ℝ) * G i.1 j.1 := by
  simp only [Matrix.trace, Matrix.diag_apply, Matrix.mul_apply, matOf, gramOf, Matrix.of_apply]
  exact Finset.sum_congr rfl fun i _ => Finset.sum_congr rfl fun j _ => by rw [hG j.1 i.1]

/-- `objective − Σ λ_c·expr_c + ⟨S, Gram⟩`: the expression `check_feasibility` reconstructs for a model without LMIs -/
def identFull (obj : EDict) (lc : List (Coef × EDict)) (n : Nat) (S : Nat → Nat → Coef) : EDict :=
  EDict.add (identOf obj lc) (gramDict n S)

/-- **models without LMIs, no semantic hypothesis left**: if the reconstruction of the identity built by the
model's own operators leaves nothing (`remaining = 0`), the multipliers of inequalities are nonnegative and the
residual is positive semidefinite, the returned constant bounds the objective at every feasible point -/
theorem scalar_check_passes_bound_valid (n : Nat) (obj : EDict) (hobj : (Dict.keys obj).Nodup)
    (lc : List (Coef × EDict)) (isEq : Fin lc.length → Bool) (S : Nat → Nat → Coef)
    (hwf : ∀ x ∈ lc, (Dict.keys x.2).Nodup)
    (hrem : (EDict.finishReconstruction (identFull obj lc n S)).2 = 0)
    (hlam : ∀ i, isEq i = false → 0 ≤ (lc.get i).1) (hS : (matOf n S).PosSemidef)
    (G : Nat → Nat → ℝ) (F : Nat → ℝ) (hG : ∀ i j, G i j = G j i) (hGpsd : (gramOf n G).PosSemidef)
    (hfeas : ∀ i, if isEq i then EDict.evalGF G F (lc.get i).2 = 0 else EDict.evalGF G F (lc.get i).2 ≤ 0) :
    EDict.evalGF G F obj ≤ (((EDict.finishReconstruction (identFull obj lc n S)).1 : ℚ) : ℝ) := by
  have hnd : (Dict.keys (identFull obj lc n S)).Nodup := EDict.wf_add _ _ (EDict.wf_sub _ _ hobj)
  refine check_passes_bound_valid (ι := Fin lc.length) (κ := Empty) (p := fun _ => Empty) n obj
    (fun i => (lc.get i).2) isEq (fun i => (((lc.get i).1 : ℚ) : ℝ)) (matOf n S)
    (fun k => k.elim) (fun k => k.elim) (identFull obj lc n S) hnd hrem ?_ ?_ hS (fun k => k.elim) G F hG hGpsd hfeas
    (fun k => k.elim)
  · intro G' F' hG'
    unfold identFull
    rw [EDict.evalGF_add G' F' _ _ (wf_gramDict n S), evalGF_identOf G' F' obj lc hwf, evalGF_gramDict,
      trace_matOf_gramOf n S G' hG', ← Fin.sum_univ_fun_getElem]
    simp only [List.get_eq_getElem]
    ring
  · intro i hi
    exact_mod_cast hlam i hi

/-- non-vacuity of `scalar_check_passes_bound_valid`: objective `f₀`, `f₀ − ⟨p₀,p₀⟩ ≤ 0` and `⟨p₀,p₀⟩ − 1 ≤ 0` with
multipliers 1 and 1, residual 0: nothing remains and the certified bound is 1 -/
example : EDict.finishReconstruction
    (identFull [(.f 0, 1)] [(1, [(.f 0, 1), (.ip 0 0, -1)]), (1, [(.ip 0 0, 1), (.one, -1)])] 1 (fun _ _ => 0)) = (1, 0) := by
  decide +kernel

/-- a wrong multiplier is seen: with multiplier 2 on the second constraint a Gram term remains -/
example : (EDict.finishReconstruction
    (identFull [(.f 0, 1)] [(1, [(.f 0, 1), (.ip 0 0, -1)]), (2, [(.ip 0 0, 1), (.one, -1)])] 1 (fun _ _ => 0))).2 = 1 := by
  decide +kernel

end Pepit.C01
