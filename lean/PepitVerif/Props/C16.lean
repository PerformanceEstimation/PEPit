import PepitVerif.Math.ListAux
import PepitModel.Eval
import PepitModel.Solve

/-!
# Property C16 (model level): no number before a successful solve
-/

namespace Pepit

/-- the pristine evaluation state of a freshly built model: no solve yet, nothing cached -/
def EvalSt.Unsolved (s : EvalSt) : Prop :=
  s.sols = #[] ∧ s.exVal = [] ∧ s.consVal = [] ∧ s.consDual = [] ∧ s.ptEpoch = [] ∧ s.psdDual = []

/-- an expression that mentions at least one leaf (function value or inner product) -/
def MentionsLeaf (e : EObj) : Prop := e.leaf.isSome ∨ ∃ kc ∈ e.d, kc.1 ≠ EKey.one

/-- **before any solve, evaluating an expression that mentions a leaf raises `ValueError`** —
for every world, every expression object, leaf or derived. -/
theorem unsolved_expr_raises (w : World) (s : EvalSt) (hs : s.Unsolved) (h : Nat) (e : EObj)
    (he : w.exs[h]? = some e) (hm : MentionsLeaf e) :
    evalExpr w s h = .error .valueError := by
  unfold evalExpr
  by_cases hl : e.leaf.isSome = true
  · simp [he, hl, hs.2.1]
  · obtain ⟨kc, hkc, hne⟩ := hm.resolve_left hl
    have hd : ¬ e.d.all (fun kc => kc.1 == EKey.one) = true := fun hall =>
      hne (eq_of_beq (List.all_eq_true.mp hall kc hkc))
    simp [he, hl, EvalSt.last, hs.1, hd]

/-- constraints: `Constraint.eval()` before any solve raises `ValueError` (this was a
`TypeError` before the `fix:` commit on the `except` clause; the model follows the code) -/
theorem unsolved_cons_raises (w : World) (s : EvalSt) (hs : s.Unsolved) (h : Nat) (c : ConsObj)
    (e : EObj) (hc : w.cons[h]? = some c) (he : w.exs[c.e]? = some e) (hm : MentionsLeaf e) :
    evalCons w s h = .error .valueError := by
  unfold evalCons
  simp only [hc, unsolved_expr_raises w s hs c.e e he hm]

/-- duals: `eval_dual` before any solve raises `ValueError` -/
theorem unsolved_dual_raises (s : EvalSt) (hs : s.Unsolved) (h : Nat) :
    evalDual s h = .error .valueError := by
  unfold evalDual; rw [hs.2.2.2.1]; rfl

theorem unsolved_psd_dual_raises (s : EvalSt) (hs : s.Unsolved) (h : Nat) :
    evalPsdDual s h = .error .valueError := by
  unfold evalPsdDual; rw [hs.2.2.2.2.2]; rfl

/-- **matrices: `PSDMatrix.eval()` before any solve raises `ValueError` as soon as ANY entry — on, above
or below the diagonal — mentions a leaf** (every entry is evaluated; nothing is inferred by symmetry) -/
theorem unsolved_psd_raises (w : World) (s : EvalSt) (hs : s.Unsolved) (h : Nat) (m : PsdObj)
    (hm : w.psds[h]? = some m) (row : List Nat) (hrow : row ∈ m.entries) (eh : Nat) (heh : eh ∈ row) (e : EObj)
    (he : w.exs[eh]? = some e) (hl : MentionsLeaf e) :
    evalPsd w s h = .error .valueError := by
  unfold evalPsd
  simp only [hm]
  -- an entry, hence a row, can only fail with `ValueError`
  have hg : ∀ a e', (match evalExpr w s a with | .ok (v, _) => Except.ok v | .error _ => .error EvalErr.valueError)
      = .error e' → e' = .valueError := by
    intro a e' h'
    split at h' <;> cases h'
    rfl
  refine List.mapM_eq_error (fun r e' h' => ?_) hrow (List.mapM_eq_error hg heh ?_)
  · obtain ⟨a, _, ha⟩ := List.mapM_error_mem h'
    exact hg a e' ha
  · simp only [unsolved_expr_raises w s hs eh e he hl]

/-- **a solve that reports no value assigns nothing**: in the flow model of `_solve_with_wrapper`
(`Model/Solve`, compared with the real method by the flow stream) the failing path stops right after
the solver call: no multiplier is recovered, no instance is stored, nothing is raised, `None` is returned -/
theorem failed_solve_assigns_nothing :
    failedFlow.calls = [.solve 1] ∧ failedFlow.dualsFrom = 0 ∧ failedFlow.primalFrom = 0 ∧ failedFlow.raises = false :=
  ⟨rfl, rfl, rfl, rfl⟩

end Pepit

#print axioms Pepit.unsolved_expr_raises
#print axioms Pepit.unsolved_cons_raises
#print axioms Pepit.unsolved_psd_raises
