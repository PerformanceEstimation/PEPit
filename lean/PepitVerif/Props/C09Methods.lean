import PepitModel.Methods
import PepitVerif.Math.AlgebraSem
import PepitVerif.Math.WellFormed
import PepitVerif.Props.C10
import PepitVerif.Math.Convex
import PepitVerif.Math.StepRates
import PepitVerif.Math.GramExpand

/-!
# Property C09 / C10: the example scripts, as specified in `Model/Methods`, are the methods the theorems are about

`Model/Methods` gives, as closed-form data, the user-level model each of ten example scripts builds (initial condition,
metrics, and the samples recorded on the function); the `methods` / `examples` streams compare these data with the objects the
real scripts build.  Per script: what its expressions denote, and `*_example_no_run_beats_bound`, the statement of C09 for the
script's own metric and initial condition, from the fact about real runs of the method that the bound rests on: a theorem
of `Props/C10`, of `Math/StepRates` (potential functions, Polyak steps) or of `Math/Convex` (`gfsc`); for the two
gradient flows of a convex function it is the convexity inequality itself.  In these, that the leaves are consistent with a real function (the
leaf recorded as gradient at `x_k` is `∇f(x_k)`, …) is a hypothesis written out leaf by leaf; the `samples` lists of
`Model/Methods` do not enter.
-/

open RealInnerProductSpace

variable {E : Type*} [NormedAddCommGroup E] [InnerProductSpace ℝ E]

namespace Pepit.C09M
open Pepit.Method

theorem den_stepPt (v : Nat → E) (x : PDict) (γ : Coef) (gl : Nat) :
    PDict.den v (stepPt x γ gl) = PDict.den v x - ((γ : ℚ) : ℝ) • v gl := by
  rw [stepPt, PDict.den_sub v x _ (PDict.wf_smul γ _ (Dict.nodup_keys_single gl 1)), PDict.den_smul, PDict.den_single]

theorem wf_iterPt (start : PDict) (hs : (Dict.keys start).Nodup) (γ : Coef) (gl : Nat → Nat) :
    ∀ k, (Dict.keys (iterPt start γ gl k)).Nodup
  | 0 => hs
  | k + 1 => PDict.wf_sub _ _ (wf_iterPt start hs γ gl k)

theorem den_iterPt (v : Nat → E) (start : PDict) (γ : Coef) (gl : Nat → Nat) :
    ∀ k, PDict.den v (iterPt start γ gl k) = Pepit.C10.subgIter (fun i => v (gl i)) ((γ : ℚ) : ℝ) (PDict.den v start) k
  | 0 => rfl
  | k + 1 => by rw [iterPt, den_stepPt, den_iterPt v start γ gl k, Pepit.C10.subgIter]

theorem den_valueGap (v : Nat → E) (φ : Nat → ℝ) (a b : Nat) :
    EDict.den v φ (EDict.sub [(EKey.f a, 1)] [(EKey.f b, 1)]) = φ a - φ b := by
  rw [EDict.den_sub v φ _ _ (Dict.nodup_keys_single _ _), EDict.den_single, EDict.den_single]

theorem wf_valueGap (a b : Nat) : (Dict.keys (EDict.sub [(EKey.f a, 1)] [(EKey.f b, 1)])).Nodup :=
  EDict.wf_sub _ _ (Dict.nodup_keys_single _ _)

theorem den_distSq (v : Nat → E) (φ : Nat → ℝ) (x : PDict) (b : Nat) :
    EDict.den v φ (PDict.sq (PDict.sub x [(b, 1)])) = ‖PDict.den v x - v b‖ ^ 2 := by
  rw [den_sq_sub v φ _ _ (Dict.nodup_keys_single b 1), PDict.den_single]

theorem den_subConst_one (v : Nat → E) (φ : Nat → ℝ) (a : EDict) :
    EDict.den v φ (EDict.subConst a 1) = EDict.den v φ a - 1 := by
  rw [EDict.den_subConst, Rat.cast_one]

/-! ## gradient descent (tutorials.gradient_descent_contraction) -/

theorem iterPt_is_gdIter (v : Nat → E) (g : E → E) (start : PDict) (γ : Coef) (gl : Nat → Nat) (n : Nat)
    (hcons : ∀ k, k < n → v (gl k) = g (PDict.den v (iterPt start γ gl k))) :
    PDict.den v (iterPt start γ gl n) = Pepit.C10.gdIter g ((γ : ℚ) : ℝ) n (PDict.den v start) := by
  rw [den_iterPt]
  exact Pepit.C10.subgIter_eq_gdIter g _ _ _ n fun k hk => by rw [← den_iterPt]; exact hcons k hk

/-- **the script's `x_k` is the `k`-th gradient-descent iterate from the script's `x_0`**, as soon as the leaves recorded as
gradients are the gradients of a real function at the recorded points -/
theorem gdcX_is_gdIter (v : Nat → E) (g : E → E) (γ : Coef) (n : Nat)
    (hcons : ∀ k, k < n → v (2 + 2 * k) = g (PDict.den v (gdcX γ k))) :
    PDict.den v (gdcX γ n) = Pepit.C10.gdIter g ((γ : ℚ) : ℝ) n (v 0) := by
  rw [gdcX, iterPt_is_gdIter v g _ γ _ n hcons, PDict.den_single]

theorem wf_gdcY (γ : Coef) (n : Nat) : (Dict.keys (gdcY γ n)).Nodup :=
  wf_iterPt _ (Dict.nodup_keys_single 1 1) γ _ n

/-- **no real run beats the closed form, for the script itself** (`‖x_0 − y_0‖² ≤ 1` initially, metric `‖x_n − y_n‖²`): under
every interpretation of the leaves in which the recorded gradients are the gradients of a member `f` at the recorded points -/
theorem gdc_example_no_run_beats_bound (f : E → ℝ) (g : E → E) (μ L : ℝ) (γ : Coef) (hμ : 0 < μ) (hμL : μ < L)
    (hγ : 0 ≤ ((γ : ℚ) : ℝ))
    (hconv : ∀ x y, f y ≥ f x + ⟪g x, y - x⟫ + μ / 2 * ‖y - x‖ ^ 2)
    (hsm : ∀ x y, f y ≤ f x + ⟪g x, y - x⟫ + L / 2 * ‖y - x‖ ^ 2)
    (v : Nat → E) (φ : Nat → ℝ) (n : Nat)
    (hx : ∀ k, k < n → v (2 + 2 * k) = g (PDict.den v (gdcX γ k)))
    (hy : ∀ k, k < n → v (3 + 2 * k) = g (PDict.den v (gdcY γ k)))
    (hinit : ∀ c ∈ (gdc γ n).init, EDict.den v φ c.1 ≤ 0) :
    ∀ m ∈ (gdc γ n).metrics, EDict.den v φ m ≤ max ((1 - ((γ : ℚ) : ℝ) * μ) ^ 2) ((1 - ((γ : ℚ) : ℝ) * L) ^ 2) ^ n := by
  refine List.forall_mem_singleton.2 ?_
  have h0 := hinit _ (List.mem_singleton_self _)
  rw [den_subConst_one, den_sq_sub v φ _ _ (wf_gdcY γ 0), sub_nonpos] at h0
  simp only [gdcX, gdcY, iterPt, PDict.den_single] at h0
  rw [den_sq_sub v φ _ _ (wf_gdcY γ n), gdcX_is_gdIter v g γ n hx, gdcY, iterPt_is_gdIter v g _ γ _ n hy, PDict.den_single]
  exact (Pepit.C10.gd_contraction_n_of_bounds f g μ L γ hμL hγ hconv hsm n (v 0) (v 1) 1 h0).trans_eq (mul_one _)

/-! ## subgradient method (unconstrained_convex_minimization.subgradient_method) -/

/-- **the script's `x_k` is the `k`-th iterate of the subgradient method** run with the recorded subgradients -/
theorem subgX_is_subgIter (v : Nat → E) (γ : Coef) (k : Nat) :
    PDict.den v (subgX γ k) = Pepit.C10.subgIter (fun i => v (2 + i)) ((γ : ℚ) : ℝ) (v 1) k := by
  rw [subgX, den_iterPt, PDict.den_single]

theorem den_subg_metrics (v : Nat → E) (φ : Nat → ℝ) (γ : Coef) (n k : Nat) (hk : k ≤ n) :
    ((subg γ n).metrics.map (EDict.den v φ))[k]? = some (φ (1 + k) - φ 0) := by
  rw [subg, List.map_map, List.getElem?_map, List.getElem?_range (Nat.lt_succ_of_le hk), Option.map_some,
    Function.comp, den_valueGap]

/-- **no real run beats the closed form, for the script itself**: recorded values are the values of a convex `f`, recorded
subgradients are subgradients at the iterates, of norm at most `M`, the start is within `R` of a minimiser; the best of the
script's metrics is at most `(R² + (n+1)γ²M²) / (2γ(n+1))` (the published `MR/√(n+1)` at the script's step,
`subgradient_closed_form`) -/
theorem subg_example_no_run_beats_bound (f : E → ℝ) (M R : ℝ) (γ : Coef) (hγ : 0 < ((γ : ℚ) : ℝ))
    (v : Nat → E) (φ : Nat → ℝ) (n : Nat)
    (hval : ∀ k, φ (1 + k) = f (PDict.den v (subgX γ k))) (hstar : φ 0 = f (v 0))
    (hsub : ∀ k y, f y ≥ f (PDict.den v (subgX γ k)) + ⟪v (2 + k), y - PDict.den v (subgX γ k)⟫)
    (hM : ∀ k, ‖v (2 + k)‖ ≤ M) (hR : ‖v 1 - v 0‖ ≤ R) :
    ∃ k, k ≤ n ∧ ∃ m, ((subg γ n).metrics.map (EDict.den v φ))[k]? = some m ∧
      m ≤ (R ^ 2 + (n + 1) * (((γ : ℚ) : ℝ) ^ 2 * M ^ 2)) / (2 * ((γ : ℚ) : ℝ) * (n + 1)) := by
  simp only [subgX_is_subgIter] at hval hsub
  obtain ⟨k, hk, hb⟩ := Pepit.C10.subgradient_bound f (fun i => v (2 + i)) ((γ : ℚ) : ℝ) M R hγ (v 1) (v 0) hsub hM hR n
  refine ⟨k, hk, φ (1 + k) - φ 0, den_subg_metrics v φ γ n k hk, ?_⟩
  rw [hval k, hstar]; exact hb

/-! ## proximal gradient (composite_convex_minimization.proximal_gradient) -/

theorem wf_pgX (γ : Coef) : ∀ k, (Dict.keys (pgX γ k)).Nodup
  | 0 => Dict.nodup_keys_single 2 1
  | k + 1 => PDict.wf_sub _ _ (PDict.wf_sub _ _ (wf_pgX γ k))

theorem den_pgX_succ (v : Nat → E) (γ : Coef) (k : Nat) :
    PDict.den v (pgX γ (k + 1)) =
      (PDict.den v (pgX γ k) - ((γ : ℚ) : ℝ) • v (3 + 2 * k)) - ((γ : ℚ) : ℝ) • v (4 + 2 * k) := by
  rw [pgX, den_stepPt, den_stepPt]

/-- **no real run beats the closed form, for the proximal-gradient script itself** (metric `‖x_n − x⋆‖²`): the leaves recorded
as gradients of `f1` are `g` at the recorded points, those recorded by the proximal steps are subgradients of `h` at the new
points, and `x⋆` is stationary the way the script records it (`−∇f(x⋆) ∈ ∂h(x⋆)`) -/
theorem pg_example_no_run_beats_bound (f : E → ℝ) (g : E → E) (h : E → ℝ) (μ L : ℝ) (γ : Coef)
    (hμ : 0 < μ) (hμL : μ < L) (hγ : 0 ≤ ((γ : ℚ) : ℝ))
    (hconv : ∀ x y, f y ≥ f x + ⟪g x, y - x⟫ + μ / 2 * ‖y - x‖ ^ 2)
    (hsm : ∀ x y, f y ≤ f x + ⟪g x, y - x⟫ + L / 2 * ‖y - x‖ ^ 2)
    (v : Nat → E) (φ : Nat → ℝ) (n : Nat)
    (hgs : v 1 = g (v 0)) (hss : ∀ z, h z ≥ h (v 0) + ⟪-(v 1), z - v 0⟫)
    (hg : ∀ k, k < n → v (3 + 2 * k) = g (PDict.den v (pgX γ k)))
    (hs : ∀ k, k < n → ∀ z, h z ≥ h (PDict.den v (pgX γ (k + 1))) + ⟪v (4 + 2 * k), z - PDict.den v (pgX γ (k + 1))⟫)
    (hinit : ∀ c ∈ (pg γ n).init, EDict.den v φ c.1 ≤ 0) :
    ∀ m ∈ (pg γ n).metrics, EDict.den v φ m ≤ max ((1 - ((γ : ℚ) : ℝ) * μ) ^ 2) ((1 - ((γ : ℚ) : ℝ) * L) ^ 2) ^ n := by
  refine List.forall_mem_singleton.2 ?_
  have h0 := hinit _ (List.mem_singleton_self _)
  rw [den_subConst_one, den_distSq, sub_nonpos] at h0
  -- `x⋆` is a fixed point of the proximal-gradient map, in the form `pg_contraction` wants
  have hfix : v 0 = (v 0 - ((γ : ℚ) : ℝ) • g (v 0)) - ((γ : ℚ) : ℝ) • (-(v 1)) := by
    rw [← hgs]; simp
  rw [den_distSq]
  refine le_of_le_of_eq (Pepit.C10.le_pow_mul_of_step (fun k => ‖PDict.den v (pgX γ k) - v 0‖ ^ 2) _ 1
    (le_max_of_le_left (sq_nonneg _)) n (fun k hk => ?_) h0) (mul_one _)
  have hstep : PDict.den v (pgX γ (k + 1)) =
      (PDict.den v (pgX γ k) - ((γ : ℚ) : ℝ) • g (PDict.den v (pgX γ k))) - ((γ : ℚ) : ℝ) • v (4 + 2 * k) := by
    rw [den_pgX_succ, hg k hk]
  exact Pepit.C10.pg_contraction f g h μ L ((γ : ℚ) : ℝ) hμ hμL hγ hconv hsm
    (PDict.den v (pgX γ k)) (v 0) (PDict.den v (pgX γ (k + 1))) (v 0) (v (4 + 2 * k)) (-(v 1))
    hstep hfix (hs k hk) hss

/-! ## gradient flow of a strongly convex function (continuous_time_models.gradient_flow_strongly_convex) -/

theorem den_gfsc_metrics (v : Nat → E) (φ : Nat → ℝ) :
    gfsc.metrics.map (EDict.den v φ) = [-‖v 2‖ ^ 2] := by
  simp only [gfsc, List.map_cons, List.map_nil]
  rw [den_ip, PDict.den_neg, PDict.den_single, inner_neg_right, real_inner_self_eq_norm_sq]

/-- **the decay rate the example returns is valid for the script's own model**: with the Lyapunov value normalised as the
script does (`f(x_t) − f(x⋆) = 1`), the metric `−‖∇f(x_t)‖²`, its derivative along the flow, is at most `−2μ` -/
theorem gfsc_example_no_run_beats_bound (f : E → ℝ) (g : E → E) (μ : ℝ) (hμ : 0 < μ)
    (hconv : ∀ x y, f y ≥ f x + ⟪g x, y - x⟫ + μ / 2 * ‖y - x‖ ^ 2)
    (v : Nat → E) (φ : Nat → ℝ) (hg : v 2 = g (v 1)) (h1 : φ 1 = f (v 1)) (h0 : φ 0 = f (v 0))
    (hinit : ∀ c ∈ gfsc.init, EDict.den v φ c.1 = 0) :
    ∀ m ∈ gfsc.metrics.map (EDict.den v φ), m ≤ -2 * μ := by
  rw [den_gfsc_metrics]
  refine List.forall_mem_singleton.2 ?_
  have hi := hinit _ (List.mem_singleton_self _)
  rw [den_subConst_one, den_valueGap] at hi
  have hpl := grad_sq_ge_of_lower f g μ hμ.le hconv (v 1) (v 0)
  rw [← hg, ← h1, ← h0] at hpl
  linear_combination hpl - (2 * μ) * hi

/-! ## gradient descent, potential function (potential_functions.gradient_descent_lyapunov_1) -/

theorem den_gdlNext (v : Nat → E) (γ : Coef) : PDict.den v (gdlNext γ) = v 1 - ((γ : ℚ) : ℝ) • v 2 := by
  rw [gdlNext, den_stepPt, PDict.den_single]

theorem den_gdlV (v : Nat → E) (φ : Nat → ℝ) (L : Coef) (k fk : Nat) (x : PDict) :
    EDict.den v φ (gdlV L k fk x) =
      (k : ℝ) * (φ fk - φ 0) + ((L : ℚ) : ℝ) / 2 * ‖PDict.den v x - v 0‖ ^ 2 := by
  rw [gdlV, EDict.den_add v φ _ _ (EDict.wf_smul _ _ (PDict.wf_sq _)), EDict.den_smul, EDict.den_smul,
    den_valueGap, den_distSq]
  push_cast; ring

theorem wf_gdlV (L : Coef) (k fk : Nat) (x : PDict) : (Dict.keys (gdlV L k fk x)).Nodup := by
  unfold gdlV
  exact EDict.wf_add _ _ (EDict.wf_smul _ _ (wf_valueGap _ _))

/-- **the potential `V_k = k (f_k − f⋆) + L/2 ‖x_k − x⋆‖²` decreases along every real run, for the script's own metric**
`V_{n+1} − V_n`, step `γ = 1/L`, every `n`, every point taken as `x⋆` -/
theorem gdl1_example_no_run_beats_bound (f : E → ℝ) (g : E → E) (L γ : Coef) (hL : 0 < ((L : ℚ) : ℝ))
    (hγ : ((γ : ℚ) : ℝ) * ((L : ℚ) : ℝ) = 1)
    (hconv : ∀ x y, f y ≥ f x + ⟪g x, y - x⟫)
    (hsm : ∀ x y, f y ≤ f x + ⟪g x, y - x⟫ + ((L : ℚ) : ℝ) / 2 * ‖y - x‖ ^ 2)
    (v : Nat → E) (φ : Nat → ℝ) (n : Nat)
    (hg : v 2 = g (v 1)) (h0 : φ 0 = f (v 0)) (h1 : φ 1 = f (v 1)) (h2 : φ 2 = f (v 1 - ((γ : ℚ) : ℝ) • v 2)) :
    ∀ m ∈ (gdl1 L γ n).metrics, EDict.den v φ m ≤ 0 := by
  refine List.forall_mem_singleton.2 ?_
  have h := gd_potential_step f g L γ hL hγ hconv hsm (v 1) (v 0) n (Nat.cast_nonneg n)
  rw [gdlMetric, EDict.den_sub v φ _ _ (wf_gdlV L n 1 _), den_gdlV, den_gdlV, den_gdlNext, PDict.den_single, h0, h1, h2, hg]
  push_cast
  linear_combination h

/-! ## gradient flow of a convex function (continuous_time_models.gradient_flow_convex) -/

theorem den_gfcMetric (v : Nat → E) (φ : Nat → ℝ) (t : Coef) :
    EDict.den v φ (gfcMetric t) =
      (φ 1 - φ 0) + ⟪((t : ℚ) : ℝ) • v 2, -(v 2)⟫ + ⟪v 1 - v 0, -(v 2)⟫ := by
  unfold gfcMetric
  rw [EDict.den_add v φ _ _ (PDict.wf_ip _ _), EDict.den_add v φ _ _ (PDict.wf_ip _ _), den_valueGap, den_ip, den_ip,
    PDict.den_smul, PDict.den_neg, PDict.den_sub v _ _ (Dict.nodup_keys_single 0 1), PDict.den_single, PDict.den_single,
    PDict.den_single]

/-- **the Lyapunov function does not increase along the flow, for the script's own metric**
`d/dt [t (f(x_t) − f⋆) + ½‖x_t − x⋆‖²]`, `t ≥ 0` -/
theorem gfc_example_no_run_beats_bound (f : E → ℝ) (g : E → E) (t : Coef) (ht : 0 ≤ ((t : ℚ) : ℝ))
    (hconv : ∀ x y, f y ≥ f x + ⟪g x, y - x⟫)
    (v : Nat → E) (φ : Nat → ℝ) (hg : v 2 = g (v 1)) (h1 : φ 1 = f (v 1)) (h0 : φ 0 = f (v 0)) :
    ∀ m ∈ (gfc t).metrics, EDict.den v φ m ≤ 0 := by
  refine List.forall_mem_singleton.2 ?_
  rw [den_gfcMetric, h1, h0, inner_neg_right, inner_neg_right, real_inner_smul_left, real_inner_self_eq_norm_sq]
  have hc := hconv (v 1) (v 0)
  rw [← hg, inner_sub_swap, real_inner_comm] at hc
  linear_combination hc + mul_nonneg ht (sq_nonneg ‖v 2‖)

/-! ## gradient descent, second potential function (potential_functions.gradient_descent_lyapunov_2) -/

theorem den_gdl2V (v : Nat → E) (φ : Nat → ℝ) (L c1 c2 : Coef) (fk : Nat) (g x : PDict) :
    EDict.den v φ (gdl2V L c1 c2 fk g x) =
      ((c1 : ℚ) : ℝ) * (φ fk - φ 0) + ((c2 : ℚ) : ℝ) * ‖PDict.den v g‖ ^ 2
        + ((L : ℚ) : ℝ) * ((L : ℚ) : ℝ) * ‖PDict.den v x - v 0‖ ^ 2 := by
  rw [gdl2V, EDict.den_add v φ _ _ (EDict.wf_smul _ _ (PDict.wf_sq _)),
    EDict.den_add v φ _ _ (EDict.wf_smul _ _ (PDict.wf_sq _)), EDict.den_smul, EDict.den_smul, EDict.den_smul,
    den_valueGap, den_sq, den_distSq]
  push_cast; ring

theorem wf_gdl2V (L c1 c2 : Coef) (fk : Nat) (g x : PDict) : (Dict.keys (gdl2V L c1 c2 fk g x)).Nodup := by
  unfold gdl2V
  exact EDict.wf_add _ _ (EDict.wf_add _ _ (EDict.wf_smul _ _ (wf_valueGap _ _)))

/-- **the second potential `V_k = (2k+1) L (f_k − f⋆) + k(k+2) ‖g_k‖² + L² ‖x_k − x⋆‖²` decreases along every real run, for the
script's own metric** `V_{n+1} − V_n`, step `γ = 1/L` -/
theorem gdl2_example_no_run_beats_bound (f : E → ℝ) (g : E → E) (L γ : Coef) (hL : 0 < ((L : ℚ) : ℝ))
    (hγ : ((γ : ℚ) : ℝ) * ((L : ℚ) : ℝ) = 1)
    (hconv : ∀ x y, f y ≥ f x + ⟪g x, y - x⟫)
    (hsm : ∀ x y, f y ≤ f x + ⟪g x, y - x⟫ + ((L : ℚ) : ℝ) / 2 * ‖y - x‖ ^ 2)
    (v : Nat → E) (φ : Nat → ℝ) (n : Nat)
    (hstar : g (v 0) = 0) (hg : v 2 = g (v 1)) (hg' : v 3 = g (v 1 - ((γ : ℚ) : ℝ) • v 2))
    (h0 : φ 0 = f (v 0)) (h1 : φ 1 = f (v 1)) (h2 : φ 2 = f (v 1 - ((γ : ℚ) : ℝ) • v 2)) :
    ∀ m ∈ (gdl2 L γ n).metrics, EDict.den v φ m ≤ 0 := by
  refine List.forall_mem_singleton.2 ?_
  have h := gd_potential2_step f g L γ hL hγ hconv hsm (v 1) (v 0) hstar n (Nat.cast_nonneg n)
  rw [gdl2Metric, EDict.den_sub v φ _ _ (wf_gdl2V _ _ _ _ _ _), den_gdl2V, den_gdl2V, den_gdlNext, PDict.den_single,
    PDict.den_single, PDict.den_single, h0, h1, h2, hg', hg]
  push_cast
  linear_combination h

/-! ## accelerated gradient flow of a convex function (continuous_time_models.accelerated_gradient_flow_convex) -/

theorem den_agfcMetric (v : Nat → E) (φ : Nat → ℝ) (t : Coef) (ht : ((t : ℚ) : ℝ) ≠ 0) :
    EDict.den v φ (agfcMetric t) =
      2 * ((t : ℚ) : ℝ) * (φ 1 - φ 0) - 2 * ((t : ℚ) : ℝ) * ⟪v 2, v 1 - v 0⟫ := by
  unfold agfcMetric agfcXdd
  rw [EDict.den_add v φ _ _ (PDict.wf_ip _ _), EDict.den_add v φ _ _ (PDict.wf_ip _ _), EDict.den_smul, den_valueGap,
    den_ip, den_ip, PDict.den_smul, PDict.den_smul,
    PDict.den_add v _ _ (PDict.wf_smul _ _ (Dict.nodup_keys_single 3 1)),
    PDict.den_sub v _ _ (Dict.nodup_keys_single 0 1), PDict.den_smul,
    PDict.den_add v _ _ (PDict.wf_smul _ _ (PDict.wf_sub _ _ (PDict.wf_smul _ _ (Dict.nodup_keys_single 3 1)))),
    PDict.den_smul, PDict.den_smul, PDict.den_sub v _ _ (Dict.nodup_keys_single 2 1), PDict.den_smul,
    PDict.den_single, PDict.den_single, PDict.den_single, PDict.den_single]
  simp only [gram_expand]
  field_simp
  ring

/-- **the Lyapunov function of the accelerated flow does not increase, for the script's own metric**: whatever the velocity
`ẋ_t`, the metric is `2t (f(x_t) − f⋆ − ⟨∇f(x_t), x_t − x⋆⟩)` -/
theorem agfc_example_no_run_beats_bound (f : E → ℝ) (g : E → E) (t : Coef) (ht : 0 < ((t : ℚ) : ℝ))
    (hconv : ∀ x y, f y ≥ f x + ⟪g x, y - x⟫)
    (v : Nat → E) (φ : Nat → ℝ) (hg : v 2 = g (v 1)) (h1 : φ 1 = f (v 1)) (h0 : φ 0 = f (v 0)) :
    ∀ m ∈ (agfc t).metrics, EDict.den v φ m ≤ 0 := by
  refine List.forall_mem_singleton.2 ?_
  rw [den_agfcMetric v φ t ht.ne', h1, h0]
  have hc := hconv (v 1) (v 0)
  rw [← hg, inner_sub_swap] at hc
  linear_combination (2 * ((t : ℚ) : ℝ)) * hc

/-! ## Polyak step, distance to the optimum (adaptive_methods.polyak_steps_in_distance_to_optimum) -/

theorem den_polyakInit (v : Nat → E) (φ : Nat → ℝ) : EDict.den v φ polyakInit = ‖v 1 - v 0‖ ^ 2 - 1 := by
  rw [polyakInit, den_subConst_one, den_distSq, PDict.den_single]

theorem den_polyakStep (v : Nat → E) (φ : Nat → ℝ) (γ : Coef) :
    EDict.den v φ (polyakStep γ) = ((γ : ℚ) : ℝ) * ‖v 2‖ ^ 2 - 2 * (φ 1 - φ 0) := by
  rw [polyakStep, EDict.den_sub v φ _ _ (EDict.wf_smul _ _ (wf_valueGap _ _)), EDict.den_smul, EDict.den_smul,
    den_valueGap, den_sq, PDict.den_single]
  push_cast; ring

theorem den_polyakMetric (v : Nat → E) (φ : Nat → ℝ) (γ : Coef) :
    EDict.den v φ (polyakMetric γ) = ‖(v 1 - ((γ : ℚ) : ℝ) • v 2) - v 0‖ ^ 2 := by
  rw [polyakMetric, den_distSq, den_gdlNext]

/-- **the tight rate of one Polyak step is valid for the script's own model** (`‖x0 − x⋆‖² ≤ 1` and the Polyak rule as
constraints, metric `‖x1 − x⋆‖²`, `1/L ≤ γ ≤ 1/μ`): `polyak_distance_step` divided by `γ(L + μ) − 1`, the initial condition
entering with multiplier `τ` -/
theorem polyakd_example_no_run_beats_bound (f : E → ℝ) (g : E → E) (μ L : ℝ) (γ : Coef) (hμ : 0 < μ) (hμL : μ < L)
    (hγ1 : 1 / L ≤ ((γ : ℚ) : ℝ)) (hγ2 : ((γ : ℚ) : ℝ) ≤ 1 / μ)
    (hconv : ∀ x y, f y ≥ f x + ⟪g x, y - x⟫ + μ / 2 * ‖y - x‖ ^ 2)
    (hsm : ∀ x y, f y ≤ f x + ⟪g x, y - x⟫ + L / 2 * ‖y - x‖ ^ 2)
    (v : Nat → E) (φ : Nat → ℝ) (hstar : g (v 0) = 0) (hg : v 2 = g (v 1)) (h0 : φ 0 = f (v 0)) (h1 : φ 1 = f (v 1))
    (hinit : EDict.den v φ polyakInit ≤ 0) (hstep : EDict.den v φ (polyakStep γ) = 0) :
    EDict.den v φ (polyakMetric γ) ≤
      (((γ : ℚ) : ℝ) * L - 1) * (1 - ((γ : ℚ) : ℝ) * μ) / (((γ : ℚ) : ℝ) * (L + μ) - 1) := by
  rw [den_polyakInit] at hinit
  rw [den_polyakStep, h0, h1, hg] at hstep
  rw [den_polyakMetric, hg]
  have hL : 0 < L := hμ.trans hμL
  have hγ : 0 < ((γ : ℚ) : ℝ) := lt_of_lt_of_le (one_div_pos.mpr hL) hγ1
  have hγL : 1 ≤ ((γ : ℚ) : ℝ) * L := (div_le_iff₀ hL).mp hγ1
  have hγμ : ((γ : ℚ) : ℝ) * μ ≤ 1 := (le_div_iff₀ hμ).mp hγ2
  have hd : 0 < ((γ : ℚ) : ℝ) * (L + μ) - 1 := by linarith [mul_pos hγ hμ]
  have hstep' := polyak_distance_step f g μ L γ hμL hγ.le hγL hγμ hconv hsm (v 1) (v 0) hstar
    (sub_eq_zero.mp hstep)
  have hτ : 0 ≤ (((γ : ℚ) : ℝ) * L - 1) * (1 - ((γ : ℚ) : ℝ) * μ) :=
    mul_nonneg (sub_nonneg.mpr hγL) (sub_nonneg.mpr hγμ)
  rw [le_div_iff₀ hd]
  linear_combination hstep' + mul_le_mul_of_nonneg_left hinit hτ

/-! ## Polyak step, function values (adaptive_methods.polyak_steps_in_function_value) -/

theorem den_polyakfInit (v : Nat → E) (φ : Nat → ℝ) : EDict.den v φ polyakfInit = φ 1 - φ 0 - 1 := by
  rw [polyakfInit, den_subConst_one, den_valueGap]

theorem den_polyakfStep (v : Nat → E) (φ : Nat → ℝ) (L γ : Coef) :
    EDict.den v φ (polyakfStep L γ) =
      ‖v 2‖ ^ 2 - 2 * ((L : ℚ) : ℝ) * (2 - ((L : ℚ) : ℝ) * ((γ : ℚ) : ℝ)) * (φ 1 - φ 0) := by
  rw [polyakfStep, EDict.den_sub v φ _ _ (EDict.wf_smul _ _ (wf_valueGap _ _)), EDict.den_smul, den_valueGap, den_sq,
    PDict.den_single]
  push_cast; ring

theorem den_polyakfMetric (v : Nat → E) (φ : Nat → ℝ) : EDict.den v φ polyakfMetric = φ 2 - φ 0 := by
  rw [polyakfMetric, den_valueGap]

/-- **the tight rate of one Polyak step in function values is valid for the script's own model** (`f(x0) − f⋆ ≤ 1` and the
Polyak rule as constraints, metric `f(x1) − f⋆`, `1/L ≤ γ ≤ (2L − μ)/L²`): `polyak_value_step`, the initial condition entering
with multiplier `τ` -/
theorem polyakf_example_no_run_beats_bound (f : E → ℝ) (g : E → E) (μ : ℝ) (L γ : Coef) (hμ : 0 < μ)
    (hμL : μ < ((L : ℚ) : ℝ))
    (hγ1 : 1 / ((L : ℚ) : ℝ) ≤ ((γ : ℚ) : ℝ)) (hγ2 : ((γ : ℚ) : ℝ) ≤ (2 * ((L : ℚ) : ℝ) - μ) / ((L : ℚ) : ℝ) ^ 2)
    (hconv : ∀ x y, f y ≥ f x + ⟪g x, y - x⟫ + μ / 2 * ‖y - x‖ ^ 2)
    (hsm : ∀ x y, f y ≤ f x + ⟪g x, y - x⟫ + ((L : ℚ) : ℝ) / 2 * ‖y - x‖ ^ 2)
    (v : Nat → E) (φ : Nat → ℝ) (hstar : g (v 0) = 0) (hg : v 2 = g (v 1)) (hg' : v 3 = g (v 1 - ((γ : ℚ) : ℝ) • v 2))
    (h0 : φ 0 = f (v 0)) (h1 : φ 1 = f (v 1)) (h2 : φ 2 = f (v 1 - ((γ : ℚ) : ℝ) • v 2))
    (hinit : EDict.den v φ polyakfInit ≤ 0) (hstep : EDict.den v φ (polyakfStep L γ) = 0) :
    EDict.den v φ polyakfMetric ≤
      (((γ : ℚ) : ℝ) * ((L : ℚ) : ℝ) - 1) *
        (((L : ℚ) : ℝ) * ((γ : ℚ) : ℝ) * (3 - ((γ : ℚ) : ℝ) * (((L : ℚ) : ℝ) + μ)) - 1) := by
  rw [den_polyakfInit, h0, h1] at hinit
  rw [den_polyakfStep, h0, h1, hg] at hstep
  rw [den_polyakfMetric, h0, h2, hg]
  have hL : 0 < ((L : ℚ) : ℝ) := hμ.trans hμL
  have hγ : 0 < ((γ : ℚ) : ℝ) := lt_of_lt_of_le (one_div_pos.mpr hL) hγ1
  have hγL : 1 ≤ ((γ : ℚ) : ℝ) * ((L : ℚ) : ℝ) := (div_le_iff₀ hL).mp hγ1
  have hγ2' : ((γ : ℚ) : ℝ) * ((L : ℚ) : ℝ) ^ 2 ≤ 2 * ((L : ℚ) : ℝ) - μ := (le_div_iff₀ (pow_pos hL 2)).mp hγ2
  have hγμ := polyakf_gamma_mu_le_one _ μ _ hL hμ.le hγ2'
  have hτ := mul_nonneg (sub_nonneg.mpr hγL) (polyakf_rate_nonneg _ μ _ hL hμ.le hγL hγ2')
  have hstep' := polyak_value_step f g μ L γ hμ.le hμL hγ.le hγL hγμ hconv hsm (v 1) (v 0) hstar
    (sub_eq_zero.mp hstep)
  linear_combination hstep' + mul_le_mul_of_nonneg_left hinit hτ

end Pepit.C09M

#print axioms Pepit.C09M.polyakf_example_no_run_beats_bound

#print axioms Pepit.C09M.polyakd_example_no_run_beats_bound

#print axioms Pepit.C09M.agfc_example_no_run_beats_bound

#print axioms Pepit.C09M.gdl2_example_no_run_beats_bound

#print axioms Pepit.C09M.gfc_example_no_run_beats_bound

#print axioms Pepit.C09M.gdl1_example_no_run_beats_bound

#print axioms Pepit.C09M.gfsc_example_no_run_beats_bound

#print axioms Pepit.C09M.pg_example_no_run_beats_bound

#print axioms Pepit.C09M.gdc_example_no_run_beats_bound
#print axioms Pepit.C09M.subg_example_no_run_beats_bound
