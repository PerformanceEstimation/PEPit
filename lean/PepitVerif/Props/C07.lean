import PepitVerif.Math.OneValue

/-!
# Property C07: oracle bookkeeping is coherent for leaf and composite functions

Theorems on the value-level function machine `PepitModel/AFun` (run beside the handle-level `World` model and the
implementation by the correspondence driver).  What single calls do (`leaf_reuse`, `leaf_new_subgradient`,
`value_stored`, `stationary_zero_gradient`, `composite_weights`), and the invariant `Inv` over every sequence of valid
calls (`step_inv`, `run_inv`) with its readings `one_value_per_point`, `one_gradient_per_point`.  The one-call facts about
the four components of `Inv` are in `Math/AFunSpec` … `Math/OneValue`; `Math/RemainderSem` (`sum_consistent_G`,
`sum_consistent_V`) is about the remainder arithmetic as `Model/Remainder` states it on its own.
-/

namespace Pepit.C07

/-- **a differentiable leaf returns the stored gradient and value**: once a triplet is recorded at
a point, `oracle` on a `reuse_gradient` leaf returns exactly that triplet's gradient and value and
records nothing -/
theorem leaf_reuse (w : AW) (f : Nat) (x : PDict) (t : ATriple)
    (hr : (w.getF f).reuse = true) (hl : lookupTriple (w.getF f).pts x = some t) :
    oracleLeafA w f x = (w, t.g, t.v) := by
  unfold oracleLeafA; simp [hl, hr]

/-- **a non-differentiable leaf keeps its value and draws a fresh subgradient** -/
theorem leaf_new_subgradient (w : AW) (f : Nat) (x : PDict) (t : ATriple)
    (hr : (w.getF f).reuse = false) (hl : lookupTriple (w.getF f).pts x = some t) :
    (oracleLeafA w f x).2.2 = t.v ∧ (oracleLeafA w f x).2.1 = leafPoint w.nP := by
  unfold oracleLeafA; simp [hl, hr]

/-- the lookup only depends on the pruned decomposition of the queried point: a point written with
explicit zero coefficients (`0 * x0`) finds the evaluation recorded at the zero point -/
theorem lookup_pruned (pts : List ATriple) (x : PDict) :
    lookupTriple pts x = lookupTriple pts (Dict.prune x) := (lookup_prune_arg pts x).symm

/-- `value` never creates anything when the point is already evaluated -/
theorem value_stored (w : AW) (f : Nat) (x : PDict) (t : ATriple)
    (hl : lookupTriple (w.getF f).pts x = some t) : valueA w f x = (w, t.v) := by
  unfold valueA; simp [hl]

/-- a call of the oracle layer on a world of declared functions -/
inductive Call where
  | oracle (f : Nat) (x : PDict)      -- `f.oracle(x)` and `f.gradient(x)` (same bookkeeping)
  | value (f : Nat) (x : PDict)       -- `f.value(x)`
  | stationary (f : Nat)              -- `f.stationary_point()`
  | fixed (f : Nat)                   -- `f.fixed_point()`

/-- what a program can write at the moment of the call: an existing function, a point made of existing
leaf points; a stationary / fixed point is asked of a leaf function or of a sum with at least one term
(the zero function is the known finding `KF-C07-zero-function-point`) -/
def Call.valid (w : AW) : Call → Prop
  | .oracle f x => f < w.funs.length ∧ (Dict.keys x).Nodup ∧ ∀ k ∈ Dict.keys x, k < w.nP
  | .value f x => f < w.funs.length ∧ (Dict.keys x).Nodup ∧ ∀ k ∈ Dict.keys x, k < w.nP
  | .stationary f => f < w.funs.length ∧ ((w.getF f).isLeaf = false → Dict.prune (w.getF f).decomp ≠ [])
  | .fixed f => f < w.funs.length ∧ ((w.getF f).isLeaf = false → Dict.prune (w.getF f).decomp ≠ [])

def step (w : AW) : Call → AW
  | .oracle f x => (oracleA w f x).1
  | .value f x => (valueA w f x).1
  | .stationary f => (stationaryPointA w f).1
  | .fixed f => (fixedPointA w f).1

/-- every call is valid in the world in which it is made -/
def RunOk : AW → List Call → Prop
  | _, [] => True
  | w, c :: rest => Call.valid w c ∧ RunOk (step w c) rest

theorem oracleA_len (w : AW) (f : Nat) (x : PDict) : (oracleA w f x).1.funs.length = w.funs.length :=
  (extends_oracleA w f x).len

def run (w : AW) (calls : List Call) : AW := calls.foldl step w

def Inv (w : AW) : Prop := OInv w ∧ Bounded w ∧ OneValue w ∧ OneGrad w

theorem step_inv (w : AW) (c : Call) (h : Inv w) (hc : Call.valid w c) : Inv (step w c) := by
  obtain ⟨hi, hb, hv, hg⟩ := h
  have horacle : ∀ f x, Call.valid w (.oracle f x) → Inv (oracleA w f x).1 := fun f x hc =>
    ⟨oracleA_inv w f x hc.1 hc.2.1 hi, (bounded_oracleA w f x hb hc.2.2).1, oracleA_one w f x hc.1 hc.2.1 hi hv hg⟩
  cases c with
  | oracle f x => exact horacle f x hc
  | value f x =>
    show Inv (valueA w f x).1
    obtain e | e := valueA_fst w f x <;> rw [e]
    · exact ⟨hi, hb, hv, hg⟩
    · exact horacle f x hc
  | stationary f =>
    obtain ⟨h1, h2, _⟩ := stationaryPointA_inv w f hi hb hc.1 hc.2
    exact ⟨h1, h2, stationaryPointA_one w f hi hb hc.1 hc.2 hv hg⟩
  | fixed f =>
    obtain ⟨h1, h2, _⟩ := fixedPointA_inv w f hi hb hc.1 hc.2
    exact ⟨h1, h2, fixedPointA_one w f hi hb hc.1 hc.2 hv hg⟩

/-- **for every world of declared functions in which the invariant holds (in particular every world in
which nothing has been evaluated yet) and every finite sequence of oracle / gradient / value /
stationary-point / fixed-point calls, each valid when it is made, in any order, on leaf and composite
functions alike, the invariant holds at the end**: stored dictionaries are well formed; every triplet
recorded on a composite function is the weighted sum of triplets recorded at the same point on its
terms; recorded points only mention existing leaf points; two triplets of one function at one point
carry the same value; a differentiable function holds at most one triplet per point -/
theorem run_inv : ∀ (calls : List Call) (w : AW), Inv w → RunOk w calls → Inv (run w calls)
  | [], _, hi, _ => hi
  | c :: rest, w, hi, hv => run_inv rest (step w c) (step_inv w c hi hv.1) hv.2

/-- **one function value per point, however often and through whichever route it is queried**: after any
valid call sequence, two triplets recorded on the same function at the same point have the same value
under every valuation of the leaf expressions -/
theorem one_value_per_point (w : AW) (calls : List Call) (h : Inv w) (hok : RunOk w calls)
    (f : Nat) (t1 t2 : ATriple) (h1 : t1 ∈ ((run w calls).getF f).pts) (h2 : t2 ∈ ((run w calls).getF f).pts)
    (hs : SamePt t1.x t2.x) (φ : EKey → ℝ) : vden φ t1.v = vden φ t2.v :=
  (run_inv calls w h hok).2.2.1 f t1 t2 h1 h2 hs φ

/-- **a differentiable function has one gradient per point**: after any valid call sequence it holds at
most one triplet per point (and `oracle` returns that triplet's gradient: `leaf_reuse`) -/
theorem one_gradient_per_point (w : AW) (calls : List Call) (h : Inv w) (hok : RunOk w calls)
    (f : Nat) (hr : ((run w calls).getF f).reuse = true) :
    ((run w calls).getF f).pts.Pairwise (fun t1 t2 => ¬ SamePt t1.x t2.x) :=
  (run_inv calls w h hok).2.2.2 f hr

/-- **a declared stationary point has zero total gradient** (whatever was called before) -/
theorem stationary_zero_gradient (w : AW) (f : Nat) (hi : OInv w) (hf : f < w.funs.length) :
    ∃ t ∈ ((step w (.stationary f)).getF f).pts, t.x = leafPoint w.nP ∧ t.g = [] :=
  ⟨_, addPointA_records { w with nP := w.nP + 1, nE := w.nE + 1 } f ⟨leafPoint w.nP, [], leafExpr w.nE⟩ hf,
    prune_leafPoint _, rfl⟩

/-- a world in which functions are declared and nothing is evaluated satisfies the invariant as soon as
its composites are well structured -/
theorem inv_of_fresh (w : AW) (hs : Struct w) (hempty : ∀ f, (w.getF f).pts = []) : Inv w := by
  -- every clause but `Struct` is about recorded triplets, and there are none
  have hno : ∀ {f t}, t ∉ (w.getF f).pts := fun ht => List.not_mem_nil (hempty _ ▸ ht)
  have hwf : WfW w := fun _ _ ht => absurd ht hno
  have hcons : Consistent w := fun _ _ _ _ ht => absurd ht hno
  have hb : Bounded w := fun _ _ ht => absurd ht hno
  have hv : OneValue w := fun _ _ _ h1 => absurd h1 hno
  have hg : OneGrad w := fun f _ => hempty f ▸ List.Pairwise.nil
  exact ⟨⟨hwf, hs, hcons⟩, hb, hv, hg⟩

/-- non-vacuity: two leaves (one differentiable, one not), the composite `2·f₀ − f₁`; calls in an order
that exercises "term evaluated before the sum" and "sum evaluated again" -/
def demoWorld : AW :=
  { funs := [{ isLeaf := true, decomp := [(0, 1)], reuse := true }, { isLeaf := true, decomp := [(1, 1)], reuse := false },
             { isLeaf := false, decomp := [(0, 2), (1, -1)], reuse := false }], nP := 2, nE := 0 }

theorem demo_prune : Dict.prune (demoWorld.getF 2).decomp = [(0, 2), (1, -1)] := by decide +kernel

theorem demo_struct : Struct demoWorld := by
  intro f hf hleaf
  have hcases : f = 0 ∨ f = 1 ∨ f = 2 := by
    have : f < 3 := hf
    omega
  rcases hcases with rfl | rfl | rfl
  · exact absurd hleaf (by decide)
  · exact absurd hleaf (by decide)
  · rw [demo_prune]
    refine ⟨?_, by decide, fun _ => ⟨(1, -1), by simp, by decide⟩⟩
    intro tw htw
    simp only [List.mem_cons, List.mem_nil_iff, or_false] at htw
    rcases htw with rfl | rfl <;> exact ⟨by decide, by decide⟩

theorem demo_Inv : Inv demoWorld :=
  inv_of_fresh demoWorld demo_struct fun f => by
    unfold AW.getF demoWorld
    match f with
    | 0 => rfl
    | 1 => rfl
    | 2 => rfl
    | (n + 3) => rfl

def demoCalls : List Call :=
  [.oracle 0 [(0, 1)], .oracle 2 [(0, 1)], .value 2 [(1, 1)], .stationary 2, .oracle 2 [(0, 1)], .fixed 0]

/-- the hypotheses of `run_inv` are met by a concrete world and a concrete call sequence (every call is
valid when it is made: decided by evaluation) -/
theorem demo_runOk : RunOk demoWorld demoCalls := by
  unfold demoCalls
  refine ⟨⟨by decide, by decide, by decide⟩, ⟨by decide, by decide, by decide +kernel⟩,
    ⟨by decide, by decide, by decide +kernel⟩, ⟨by decide, fun _ => by decide +kernel⟩,
    ⟨by decide, by decide, by decide +kernel⟩, ⟨by decide, fun h => by revert h; decide +kernel⟩, trivial⟩

example : Inv (run demoWorld demoCalls) := run_inv _ _ demo_Inv demo_runOk

example : ((run demoWorld demoCalls).getF 2).pts.length = 4 := by
  decide +kernel

/-- **a sum of functions denotes the weighted sum of its operands' leaf weights** — also when both operands are the same
object (`f + f` weighs `f` twice) and whatever the signs (`f - f` is the zero function once pruned): for every valuation
of the leaf functions, the decomposition of `c1·a + c2·b` evaluates to `c1·(a) + c2·(b)` -/
theorem composite_weights (w : AW) (c1 : Coef) (a : Nat) (c2 : Coef) (b : Nat) (val : Nat → ℝ)
    (hb : (Dict.keys (w.getF b).decomp).Nodup) :
    Dict.denM val (((w.newComposite c1 a c2 b).1.getF (w.newComposite c1 a c2 b).2).decomp)
      = ((c1 : ℚ) : ℝ) * Dict.denM val (w.getF a).decomp + ((c2 : ℚ) : ℝ) * Dict.denM val (w.getF b).decomp := by
  simp only [AW.newComposite, getF_append_last]
  rw [Dict.denM_merge _ _ _ (Dict.nodup_keys_scale _ _ hb), Dict.denM_scale, Dict.denM_scale, smul_eq_mul, smul_eq_mul]

/-- `f + f` on a leaf: weight 2 (kernel-checked instance) -/
example : (((demoWorld.newComposite 1 0 1 0).1.getF 3).decomp) = [(0, 2)] := by decide +kernel

end Pepit.C07

#print axioms Pepit.C07.leaf_reuse
#print axioms Pepit.C07.lookup_pruned
#print axioms Pepit.C07.run_inv
#print axioms Pepit.C07.composite_weights
