import PepitVerif.Math.PairsSem

/-!
# Property C04: class constraints are complete and independent of the declaration order

* completeness / order independence of the two enumerators (`Math/PairsSem`, on `Model/Pairs`,
  the definitions the world model executes): `pairIdx_same_complete`, `pairIdx_same_symmetric`,
  `pairIdx_symmetric_covers`, `nodup_pairIdx`, `mem_pairsOf`, `pairsOf_perm_invariant`,
  `mem_pairsTwo`, `pairsTwo_perm_invariant`.
* equivalence with the documented conditions: one theorem `den_<Class>_<cond>` per *regenerated*
  formula (`Math/ClassForms`): the generated quadratic form denotes the canonical (documented)
  inequality for every sample and parameter in the documented range.
-/

namespace Pepit.C04

/-- with the symmetry halving, every unordered pair of distinct samples is still instantiated in
one of its two orders (so a symmetric condition loses nothing) -/
theorem symmetric_condition_complete (n i j : Nat) (hi : i < n) (hj : j < n) (hne : i ≠ j) :
    (i, j) ∈ pairIdx n n true ∨ (j, i) ∈ pairIdx n n true :=
  (pairIdx_symmetric_covers n i j hi hj hne).imp And.left And.left

theorem no_duplicate_pairs (n1 n2 : Nat) (s : Bool) : (pairIdx n1 n2 s).Nodup := nodup_pairIdx n1 n2 s

/-- non-vacuity: 3 samples give the 6 ordered pairs, or the 3 upper-triangular ones -/
example : pairIdx 3 3 false = [(0, 1), (0, 2), (1, 0), (1, 2), (2, 0), (2, 1)] ∧
    pairIdx 3 3 true = [(0, 1), (0, 2), (1, 2)] := by decide

end Pepit.C04
