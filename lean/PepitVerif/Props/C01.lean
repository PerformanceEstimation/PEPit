import PepitVerif.Math.CvxSem
import PepitVerif.Math.MatricesSem

/-!
# Property C01: the returned bound is backed by a complete, checkable dual certificate

* `recover_spec` (`Math/CvxSem`): for every list of sent items (scalar constraints and LMIs of any
  size, in any order) and every assignment of dual values to the emitted solver constraints,
  `_recover_dual_values` returns the dual of `G ≽ 0` followed, item by item, by the dual of that
  item's own main constraint — the counter walk `+1 / +1+n²` never lands on an entry equality.
* `cert_sound` (`Math/Certificate`): weak duality — an identity
  `objective − τ = Σ λ·c − ⟨S, G⟩ − Σ⟨Λ_k, T_k⟩` with `λ ≥ 0` on inequalities and `S, Λ_k ≽ 0`
  bounds the objective by `τ` at every feasible point.
This file states the routing result in the form the property uses (`routing`) and what the reconstruction at the end
of `check_feasibility` proves (`evalGF_symmetrize`, `reconstruction_spec`, `printed_remaining_is_weaker`).
-/

namespace Pepit.C01

/-- the multipliers attached by `assign_dual_values` (`zip(sent, duals[1:])`): the `k`-th sent item
receives the dual of its own main constraint -/
theorem routing {δ : Type} (d : SolverCon → δ) (items : List Item) (k : Nat) (hk : k < items.length) :
    ∃ ds, recover ((emit items).map d) items = some ds ∧
      ds[k + 1]? = some (d (mainOf items[k])) ∧ ds[0]? = some (d .gram) := by
  refine ⟨_, recover_spec d items, ?_, rfl⟩
  simp [hk]

/-- non-vacuity: `[c₀, LMI₁(2×2), c₂]` — the third item's dual sits at solver index 7 -/
example : recover [10, 11, 12, 13, 14, 15, 16, 17] [.cons 0, .psd 1 2, .cons 2] = some [10, 11, 12, 17] := by
  decide

end Pepit.C01

#print axioms Pepit.C01.routing

namespace Pepit.C01

/-- **`symmetrize_dict` does not change what an expression denotes** on symmetric Gram matrices -/
theorem evalGF_symmetrize (G : Nat → Nat → ℝ) (F : Nat → ℝ) (hG : ∀ i j, G i j = G j i)
    (d : EDict) (hnd : (Dict.keys d).Nodup) :
    EDict.evalGF G F (EDict.symmetrize d) = EDict.evalGF G F d := by
  unfold EDict.evalGF EDict.symmetrize
  rw [Dict.denM_scale, Dict.denM_merge _ _ _ (Dict.nodup_keys_map_key (Function.LeftInverse.injective EKey.swap_swap) d hnd),
    Dict.denM_map_key, funext (keyValGF_swap G F hG)]
  push_cast
  simp only [smul_eq_mul]
  ring

theorem absv_eq_abs (c : Coef) : Coef.absv c = |c| := by
  unfold Coef.absv
  split
  · next h => exact (abs_of_neg h).symm
  · next h => exact (abs_of_nonneg (not_lt.mp h)).symm

/-- `remaining_terms` is an `ℓ¹` norm: it vanishes only if every summed coefficient does -/
theorem foldl_absv_zero (l : EDict) (h : l.foldl (fun a kc => a + Coef.absv kc.2) 0 = 0) :
    ∀ kc ∈ l, kc.2 = 0 := by
  have hsum : (l.map fun kc => |kc.2|).sum = 0 := by
    rw [← h, List.sum_eq_foldl, List.foldl_map]
    simp only [absv_eq_abs]
  intro kc hkc
  have h0 : ∀ x ∈ l.map fun kc => |kc.2|, 0 ≤ x := List.forall_mem_map.mpr fun kc _ => abs_nonneg kc.2
  have hle : |kc.2| ≤ (l.map fun kc => |kc.2|).sum := List.single_le_sum h0 _ (List.mem_map_of_mem hkc)
  exact abs_nonpos_iff.mp (hsum ▸ hle)

theorem evalGF_eq_const (G : Nat → Nat → ℝ) (F : Nat → ℝ) (d : EDict) (hnd : (Dict.keys d).Nodup)
    (h : ∀ kc ∈ d, kc.1 ≠ EKey.one → kc.2 = 0) : EDict.evalGF G F d = ((Dict.coefOf d .one : ℚ) : ℝ) := by
  rw [EDict.evalGF_eq_sum_keys G F d hnd, Finset.sum_eq_single EKey.one]
  · exact mul_one _
  · intro k hk hne
    obtain ⟨kc, hkc, rfl⟩ := List.mem_map.mp (List.mem_toFinset.mp hk)
    rw [Dict.coefOf_of_mem hnd kc hkc, h kc hkc hne, Rat.cast_zero, zero_mul]
  · intro hone
    rw [Dict.coefOf_of_not_mem (mt List.mem_toFinset.mpr hone), Rat.cast_zero, zero_mul]

/-- **what PEPit's own check means**: if `remaining_terms` is `0`, then for every symmetric Gram matrix
and every vector of function values the expression `objective − combination` evaluates to the returned
dual value — i.e. the identity `objective − τ = Σ λ·c − ⟨S, G⟩ − Σ⟨Λ, T⟩` of the property holds with `τ`
the value returned in dual mode -/
theorem reconstruction_spec (G : Nat → Nat → ℝ) (F : Nat → ℝ) (hG : ∀ i j, G i j = G j i)
    (ident : EDict) (hnd : (Dict.keys ident).Nodup) (hrem : (EDict.finishReconstruction ident).2 = 0) :
    EDict.evalGF G F ident = (((EDict.finishReconstruction ident).1 : ℚ) : ℝ) := by
  set d := Dict.prune (EDict.symmetrize ident)
  have hndd : (Dict.keys d).Nodup :=
    Dict.nodup_keys_prune _ (Dict.nodup_keys_scale _ _ (Dict.nodup_keys_merge _ _ hnd))
  calc EDict.evalGF G F ident = EDict.evalGF G F d :=
        ((Dict.denM_prune _ _).trans (evalGF_symmetrize G F hG ident hnd)).symm
    _ = ((Dict.coefOf d .one : ℚ) : ℝ) := evalGF_eq_const G F d hndd fun kc hkc hne =>
        foldl_absv_zero _ hrem kc (List.mem_filter.mpr ⟨hkc, bne_iff_ne.mpr hne⟩)
    -- the constant that `finishReconstruction` returns is the coefficient of `one` in `d`
    _ = _ := rfl

/-- non-vacuity: `⟨p0,p1⟩ − ⟨p1,p0⟩ + 3` has constant 3 and, after symmetrisation, remaining terms 0; without the mirrored key
the term remains -/
example : EDict.finishReconstruction [(.ip 0 1, 1), (.ip 1 0, -1), (.one, 3)] = (3, 0) := by decide +kernel
example : EDict.finishReconstruction [(.ip 0 1, 1), (.one, 3)] = (3, 1) := by decide +kernel

end Pepit.C01

#print axioms Pepit.C01.reconstruction_spec
#print axioms Pepit.C01.evalGF_symmetrize

namespace Pepit.C01
/-- the number the source *prints* as `remaining_terms` ignores function-value entries (see
`EDict.remainingAsPrinted`): it can be `0` while the identity fails — `f₀` alone "reconstructs perfectly" -/
theorem printed_remaining_is_weaker :
    EDict.remainingAsPrinted [(.f 0, 1)] = 0 ∧ (EDict.finishReconstruction [(.f 0, 1)]).2 = 1 := by
  decide +kernel
end Pepit.C01
