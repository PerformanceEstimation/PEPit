import PepitVerif.Math.SparseSem
import PepitModel.Mosek
import PepitModel.Wrappers

/-!
# Property C11: both back-ends solve the same problem and report duals in one convention

* `row_holds_iff` / `dense_holds_iff` / `backends_same_constraint`: the MOSEK row built from the
  sparse data (`⟨A, G⟩ + a·F ∈ (−∞, −α]` resp. `{−α}`) and the cvxpy constraint built from the dense
  data (`Tr(Gw G) + Fw·F + α ≤ 0` resp. `= 0`) hold for exactly the same `(G, F)`: both say
  `evalGF(expr) ≤ 0` (`= 0`).
* `lmi_row_iff`: the coupling row of LMI entry `(i, j)` (selector `−1` on the diagonal, `−½` at
  `(max, min)` read symmetrically) says `evalGF(e_ij) = M i j` for the symmetric matrix variable —
  the same equality cvxpy imposes.
* `mrecover_spec`: `_recover_dual_values` of the MOSEK wrapper hands every sent item the dual of
  its own row / its own matrix variable, for every list of sent items.
* `heuristic_objective_same`: the lower triangle of the weight matrix handed to MOSEK by the dimension-reduction
  heuristics denotes `⟨W, G⟩`, what the cvxpy wrapper writes as `trace(W @ G)`.
The exact Task call sequence of the real `MosekWrapper` is compared with `Model/Wrappers` by the
collect+tee stream on the stand-in `mosek` module.
-/

namespace Pepit.C11

/-- the MOSEK row of a constraint: `⟨A, G⟩ + a·F` against the bound `−α` -/
noncomputable def rowLhs (G : Nat → Nat → ℝ) (F : Nat → ℝ) (S : SparseW) : ℝ :=
  evalSparse G F { S with c := 0 }

theorem rowLhs_eq (G : Nat → Nat → ℝ) (F : Nat → ℝ) (S : SparseW) :
    rowLhs G F S = evalSparse G F S - ((S.c : ℚ) : ℝ) := by
  unfold rowLhs evalSparse; simp

theorem rowLhs_toSparse (G : Nat → Nat → ℝ) (F : Nat → ℝ) (hG : ∀ i j, G i j = G j i)
    (e : EDict) (hnd : (Dict.keys e).Nodup) :
    rowLhs G F (toSparse e) = EDict.evalGF G F e - (((toSparse e).c : ℚ) : ℝ) := by
  rw [rowLhs_eq, sparse_correct G F hG e hnd]

/-- **MOSEK row ⇔ symbolic constraint** (`boundkey.up` with upper bound `−α`, `boundkey.fx` at `−α`) -/
theorem row_holds_iff (G : Nat → Nat → ℝ) (F : Nat → ℝ) (hG : ∀ i j, G i j = G j i)
    (e : EDict) (hnd : (Dict.keys e).Nodup) :
    (rowLhs G F (toSparse e) ≤ -(((toSparse e).c : ℚ) : ℝ) ↔ EDict.evalGF G F e ≤ 0) ∧
    (rowLhs G F (toSparse e) = -(((toSparse e).c : ℚ) : ℝ) ↔ EDict.evalGF G F e = 0) := by
  rw [rowLhs_toSparse G F hG e hnd, sub_le_iff_le_add, sub_eq_iff_eq_add, neg_add_cancel]
  exact ⟨Iff.rfl, Iff.rfl⟩

/-- **cvxpy constraint ⇔ symbolic constraint** -/
theorem dense_holds_iff (n m : Nat) (G : Nat → Nat → ℝ) (F : Nat → ℝ) (hG : ∀ i j, G i j = G j i)
    (e : EDict) (hnd : (Dict.keys e).Nodup) (hr : ∀ k ∈ Dict.keys e, EKey.inRange n m k) :
    (evalDense n m G F (toDense e) ≤ 0 ↔ EDict.evalGF G F e ≤ 0) ∧
    (evalDense n m G F (toDense e) = 0 ↔ EDict.evalGF G F e = 0) := by
  rw [dense_correct n m G F hG e hnd hr]; exact ⟨Iff.rfl, Iff.rfl⟩

/-- **both back-ends impose the same scalar constraint** on `(G, F)` -/
theorem backends_same_constraint (n m : Nat) (G : Nat → Nat → ℝ) (F : Nat → ℝ) (hG : ∀ i j, G i j = G j i)
    (e : EDict) (hnd : (Dict.keys e).Nodup) (hr : ∀ k ∈ Dict.keys e, EKey.inRange n m k) :
    (rowLhs G F (toSparse e) ≤ -(((toSparse e).c : ℚ) : ℝ) ↔ evalDense n m G F (toDense e) ≤ 0) ∧
    (rowLhs G F (toSparse e) = -(((toSparse e).c : ℚ) : ℝ) ↔ evalDense n m G F (toDense e) = 0) := by
  have h1 := row_holds_iff G F hG e hnd
  have h2 := dense_holds_iff n m G F hG e hnd hr
  exact ⟨h1.1.trans h2.1.symm, h1.2.trans h2.2.symm⟩

/-- the selector matrix of LMI entry `(i, j)` as the wrapper writes it: one lower-triangular triplet -/
def selector (i j : Nat) : Trip := ⟨max i j, min i j, if i == j then -1 else -(1 / 2)⟩

theorem selector_val (M : Nat → Nat → ℝ) (hM : ∀ i j, M i j = M j i) (i j : Nat) :
    tripVal M (selector i j) = - M i j := by
  rw [tripVal, selector, symv_max_min, symv_of_symm hM]
  by_cases hij : i = j
  · simp [hij]
  · simp [hij]

/-- **LMI coupling row**: the row `⟨A, G⟩ + a·F + ⟨sel_ij, M⟩ = −α` says `evalGF(e_ij) = M i j` -/
theorem lmi_row_iff (G M : Nat → Nat → ℝ) (F : Nat → ℝ) (hG : ∀ i j, G i j = G j i) (hM : ∀ i j, M i j = M j i)
    (e : EDict) (hnd : (Dict.keys e).Nodup) (i j : Nat) :
    (rowLhs G F (toSparse e) + tripVal M (selector i j) = -(((toSparse e).c : ℚ) : ℝ)) ↔
      EDict.evalGF G F e = M i j := by
  rw [rowLhs_toSparse G F hG e hnd, selector_val M hM]
  constructor <;> intro h <;> linarith

theorem mrecover_aux {δ : Type} (y bars : Nat → δ) :
    ∀ (items : List Item) (pre : List Nat) (r cp : Nat),
      mrecoverFrom (fun k => some (y k)) (fun k => some (bars k)) (pre ++ consRows r items) pre.length cp items
        = some (mspec y bars r cp items)
  | [], _, _, _ => rfl
  | .cons _ :: rest, pre, r, cp => by
    -- the row of this constraint is read at position `pre.length`; the walk goes on behind it
    have ih := mrecover_aux y bars rest (pre ++ [r]) (r + 1) cp
    rw [List.append_assoc, List.length_append, List.singleton_append, List.length_singleton] at ih
    simp [consRows, mrecoverFrom, mspec, ih]
  | .psd _ n :: rest, pre, r, cp => by
    simp [consRows, mrecoverFrom, mspec, mrecover_aux y bars rest pre (r + n * n) (cp + 1)]

/-- **`MosekWrapper._recover_dual_values` routes every multiplier to its own item**: for every list
of sent items, scalar constraint `k` receives `y[row at which it was emitted]` and LMI `k` the
(negated) dual of matrix variable `1 + number of LMIs sent before it` -/
theorem mrecover_spec {δ : Type} (y bars : Nat → δ) (items : List Item) (r0 : Nat) :
    mrecoverFrom (fun k => some (y k)) (fun k => some (bars k)) (consRows r0 items) 0 1 items
      = some (mspec y bars r0 1 items) := by
  simpa using mrecover_aux y bars items [] r0 1

/-- non-vacuity: `[c, LMI(2×2), c, LMI(1×1), c]` — rows 0, 5, 7 and matrix variables 1, 2 -/
example : consRows 0 [.cons 0, .psd 1 2, .cons 2, .psd 3 1, .cons 4] = [0, 5, 7] ∧
    mspec (fun r => 100 + r) (fun b => 200 + b) 0 1 [.cons 0, .psd 1 2, .cons 2, .psd 3 1, .cons 4]
      = [100, 201, 105, 202, 107] := by decide

/-- the matrix `W` as the wrapper receives it (rows of a square array) -/
def rowsOfFn (n : Nat) (W : Nat → Nat → Coef) : List (List Coef) :=
  (List.range n).map (fun i => (List.range n).map (fun j => W i j))

theorem rowsOfFn_get (n : Nat) (W : Nat → Nat → Coef) (i j : Nat) (hi : i < n) (hj : j < n) :
    ((rowsOfFn n W).getD i []).getD j 0 = W i j := by
  simp [rowsOfFn, List.getD, hi, hj]

/-- one entry of the lower triangle as the wrapper emits it: nothing for a zero -/
def tripOpt (i : Nat) (f : Nat → Coef) (j : Nat) : Option Trip := if f j == 0 then Option.none else some ⟨i, j, f j⟩

theorem sum_filterMap_trips (G : Nat → Nat → ℝ) (i : Nat) (f : Nat → Coef) (l : List Nat) :
    ((l.filterMap (tripOpt i f)).map (tripVal G)).sum = (l.map (fun j => ((f j : ℚ) : ℝ) * symv G i j)).sum := by
  induction l with
  | nil => simp
  | cons j rest ih =>
    by_cases h : f j = 0
    · have hn : tripOpt i f j = Option.none := by simp [tripOpt, h]
      rw [List.filterMap_cons_none hn, ih, List.map_cons, List.sum_cons, h]; simp
    · have hs : tripOpt i f j = some ⟨i, j, f j⟩ := by simp [tripOpt, h]
      rw [List.filterMap_cons_some hs, List.map_cons, List.sum_cons, ih, List.map_cons, List.sum_cons]; rfl

theorem heuristic_rows (n : Nat) (W : Nat → Nat → Coef) (G : Nat → Nat → ℝ) :
    ((mosekHeuristic (rowsOfFn n W)).map (tripVal G)).sum
      = ∑ i ∈ Finset.range n, ∑ j ∈ Finset.range (i + 1), ((W i j : ℚ) : ℝ) * symv G i j := by
  have hlen : (rowsOfFn n W).length = n := by simp [rowsOfFn]
  rw [mosekHeuristic, hlen, List.sum_map_flatMap, List.sum_map_range]
  refine Finset.sum_congr rfl fun i hi => ?_
  -- row `i` of the wrapper's double loop is `tripOpt i` of that row of `W`
  change ((List.filterMap (tripOpt i fun j => ((rowsOfFn n W).getD i []).getD j 0) (List.range (i + 1))).map
    (tripVal G)).sum = _
  rw [sum_filterMap_trips, List.sum_map_range]
  refine Finset.sum_congr rfl fun j hj => ?_
  rw [rowsOfFn_get n W i j (Finset.mem_range.mp hi) (lt_of_lt_of_le (Finset.mem_range.mp hj) (Finset.mem_range.mp hi))]

theorem triangle_sum (W : Nat → Nat → ℝ) (G : Nat → Nat → ℝ) (hW : ∀ i j, W i j = W j i) (n : Nat) :
    (∑ i ∈ Finset.range n, ∑ j ∈ Finset.range (i + 1), W i j * symv G i j)
      = ∑ i ∈ Finset.range n, ∑ j ∈ Finset.range n, W i j * G i j := by
  induction n with
  | zero => rfl
  | succ n ih =>
    -- in the new row of the triangle the entries left of the diagonal count twice: once for the new row of
    -- the square and once, by symmetry of `W`, for its new column
    have hrow : ∀ j ∈ Finset.range n, W n j * symv G n j = W n j * G n j + W j n * G j n := fun j hj => by
      rw [symv, if_neg (Finset.mem_range.mp hj).ne', hW j n]; ring
    have hdiag : symv G n n = G n n := if_pos rfl
    rw [Finset.sum_range_succ, ih]
    simp only [Finset.sum_range_succ _ n, Finset.sum_add_distrib, Finset.sum_congr rfl hrow, hdiag]
    ring

/-- **both back-ends minimise the same heuristic objective**: the lower triangle of `W` handed to MOSEK
(`appendsparsesymmat`, read symmetrically) denotes `⟨W, G⟩ = Σ W i j · G i j`, what the cvxpy wrapper writes as
`trace(W @ G)`, for every symmetric weight matrix `W` — the dimension-reduction heuristics replace the objective by the same
function of the Gram matrix in both wrappers (`dump.heur` ties `mosekHeuristic` to the real `MosekWrapper.heuristic`) -/
theorem heuristic_objective_same (n : Nat) (W : Nat → Nat → Coef) (hW : ∀ i j, W i j = W j i) (G : Nat → Nat → ℝ) :
    ((mosekHeuristic (rowsOfFn n W)).map (tripVal G)).sum
      = ∑ i ∈ Finset.range n, ∑ j ∈ Finset.range n, ((W i j : ℚ) : ℝ) * G i j := by
  rw [heuristic_rows]
  exact triangle_sum (fun i j => ((W i j : ℚ) : ℝ)) G (fun i j => by rw [hW i j]) n

/-- non-vacuity: a symmetric 2 × 2 weight with a zero entry -/
example : mosekHeuristic (rowsOfFn 2 (fun i j => if i = j then 3 else 0)) = [⟨0, 0, 3⟩, ⟨1, 1, 3⟩] := by decide +kernel

end Pepit.C11

#print axioms Pepit.C11.heuristic_objective_same

#print axioms Pepit.C11.backends_same_constraint
#print axioms Pepit.C11.lmi_row_iff
#print axioms Pepit.C11.mrecover_spec
