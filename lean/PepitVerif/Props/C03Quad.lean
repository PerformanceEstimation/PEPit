import PepitVerif.Props.C03LMI

/-!
# Property C03: quadratic class and block-smooth class
-/

open RealInnerProductSpace Finset

variable {E : Type*} [NormedAddCommGroup E] [InnerProductSpace ℝ E]

section quadratic
/- `f x = fs + ½⟪x − xs, Q (x − xs)⟫`, `∇f x = Q (x − xs)`, `Q` self-adjoint with
`⟪L z − Q z, Q z − μ z⟫ ≥ 0` -/
variable (Q : E →ₗ[ℝ] E) (xs : E) (fs : ℝ)

theorem SmoothStronglyConvexQuadraticFunction.sound_value (μ L : ℚ) (xi xj : E) :
    QForm.den (sv xi (Q (xi - xs)) xj (Q (xj - xs)) xs)
      (fvOf (fs + 1 / 2 * ⟪xi - xs, Q (xi - xs)⟫) (fs + 1 / 2 * ⟪xj - xs, Q (xj - xs)⟫) fs)
      (Gen.SmoothStronglyConvexQuadraticFunction.value μ L) = 0 := by
  rw [den_SmoothStronglyConvexQuadraticFunction_value]
  simp only [Canon.quadValue, sv, fvOf]
  ring

theorem SmoothStronglyConvexQuadraticFunction.sound_symmetry (μ L : ℚ) (xi xj : E) (fi fj : ℝ)
    (hsym : ∀ u w, ⟪Q u, w⟫ = ⟪u, Q w⟫) :
    QForm.den (sv xi (Q (xi - xs)) xj (Q (xj - xs)) xs) (fvOf fi fj fs)
      (Gen.SmoothStronglyConvexQuadraticFunction.symmetry μ L) = 0 := by
  rw [den_SmoothStronglyConvexQuadraticFunction_symmetry]
  simp only [Canon.quadSymmetry, sv]
  rw [← hsym (xi - xs) (xj - xs), real_inner_comm (Q (xi - xs)) (xj - xs)]
  ring

theorem SmoothStronglyConvexQuadraticFunction.sound_lmi0 {n : Nat} (x : Fin n → E) (c : Fin n → ℝ)
    (fi fj : ℝ) (μ L : ℚ) (hsym : ∀ u w, ⟪Q u, w⟫ = ⟪u, Q w⟫)
    (hspec : ∀ z, 0 ≤ ⟪(L : ℝ) • z - Q z, Q z - (μ : ℝ) • z⟫) :
    0 ≤ ∑ i, ∑ j, c i * c j *
        QForm.den (sv (x i) (Q (x i - xs)) (x j) (Q (x j - xs)) xs) (fvOf fi fj fs)
          (Gen.SmoothStronglyConvexQuadraticFunction.lmi0_entry μ L) := by
  -- with `u = xᵢ − xs`, `v = xⱼ − xs` the entry is `⟪L u − Q u, Q v − μ v⟫`
  have key : ∀ u v : E, ((L : ℝ) + (μ : ℝ)) * ⟪Q u, v⟫ - ⟪Q u, Q v⟫ - (μ : ℝ) * (L : ℝ) * ⟪u, v⟫
      = ⟪(L : ℝ) • u - Q u, Q v - (μ : ℝ) • v⟫ := by
    intro u v
    rw [← spectral_entry Q hsym, ← hsym u v]
    ring
  simp only [den_SmoothStronglyConvexQuadraticFunction_lmi0_entry, Canon.quadLmi, sv, key]
  exact spectral_gram_nonneg c (fun i => x i - xs) μ L Q hspec

end quadratic

section block
/-- a coordinate-block projection: linear, idempotent, self-adjoint -/
structure IsBlockProj (P : E →ₗ[ℝ] E) : Prop where
  idem : ∀ u, P (P u) = P u
  selfAdj : ∀ u w, ⟪P u, w⟫ = ⟪u, P w⟫

/-- **BlockSmoothConvexFunction**: convex, and `Lk`-smooth along block `k` -/
theorem BlockSmoothConvexFunction.sound (f : E → ℝ) (g : E → E) (P : E →ₗ[ℝ] E) (hP : IsBlockProj P)
    (L0 L1 : ℚ) (hL : 0 < L0)
    (hconv : ∀ x y, f y ≥ f x + ⟪g x, y - x⟫)
    (hblock : ∀ x h, f (x + P h) ≤ f x + ⟪g x, P h⟫ + (L0 : ℝ) / 2 * ‖P h‖ ^ 2)
    (xi xj : E) :
    QForm.den (sv xi (g xi) xj (g xj) 0 0 (P (g xi)) (P (g xj))) (fvOf (f xi) (f xj))
      (Gen.BlockSmoothConvexFunction.smoothness_convexity_block L0 L1) ≤ 0 := by
  rw [den_BlockSmoothConvexFunction_block _ _ L0 L1 (ne_of_gt hL)]
  -- a step from `xi` against the block component of `g xi - g xj`
  have hd : ⟪g xi - g xj, P (g xi - g xj)⟫ = ‖P (g xi - g xj)‖ ^ 2 := by
    rw [← real_inner_self_eq_norm_sq, hP.selfAdj, hP.idem]
  have hz : xi + P (-(1 / (L0 : ℝ)) • (g xi - g xj)) = xi - (1 / (L0 : ℝ)) • P (g xi - g xj) := by
    rw [map_smul, neg_smul, ← sub_eq_add_neg]
  have h := sc_interp_at (fx := f xi) (Rat.cast_pos.2 hL) hz hd (hconv xj _)
    (by rw [add_sub_cancel_left]; exact hblock xi _)
  show ⟪g xj, xi - xj⟫ + 1 / (2 * (L0 : ℝ)) * ⟪P (g xi) - P (g xj), P (g xi) - P (g xj)⟫
    - (f xi - f xj) ≤ 0
  rw [sub_nonpos, real_inner_self_eq_norm_sq, ← map_sub]
  exact h

end block

#print axioms SmoothStronglyConvexQuadraticFunction.sound_lmi0
#print axioms BlockSmoothConvexFunction.sound
