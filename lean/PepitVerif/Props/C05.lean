import PepitVerif.Math.ListAux
import PepitVerif.Math.SparseSem
import PepitVerif.Math.CvxSem
import PepitModel.World

/-!
# Property C05: the numeric data handed to the solver denotes the symbolic expression

`dense_correct` (`Math/MatricesSem`) and `sparse_correct` (`Math/SparseSem`) are the two translator
theorems: for every duplicate-free decomposition and every symmetric `G`, the dense triple
`(Gweights, Fweights, cons)` and the sparse lower-triangular triplets denote `evalGF`.
This file adds the shape facts MOSEK requires of the sparse data (`sparse_lower`), what the cvxpy emission contains
(`lmi_entries_complete`, `scalar_reaches`, `emit_only`) and the collection order of `_solve_with_wrapper` (`sendOrder_eq`,
`sent_count_cons`, `sent_count_psd`).
-/

namespace Pepit.C05

theorem sparseStep_lower (e : EDict) (acc : SparseW) (kc : EKey × Coef)
    (h : ∀ t ∈ acc.G, t.j ≤ t.i) : ∀ t ∈ (sparseStep e acc kc).G, t.j ≤ t.i := by
  obtain ⟨k, w⟩ := kc
  cases k with
  | f i => exact h
  | one => exact h
  | ip i j =>
    simp only [sparseStep]
    split_ifs with _ hij
    · exact List.forall_mem_append.mpr ⟨h, List.forall_mem_singleton.mpr hij⟩
    · exact h
    · exact List.forall_mem_append.mpr ⟨h, List.forall_mem_singleton.mpr min_le_max⟩

/-- **`expression_to_sparse_matrices` only emits lower-triangular index pairs** (what
`appendsparsesymmat` requires), for every decomposition -/
theorem sparse_lower (e : EDict) : ∀ t ∈ (toSparse e).G, t.j ≤ t.i :=
  List.foldlRecOn (motive := fun acc => ∀ t ∈ acc.G, t.j ≤ t.i) e _ (by simp)
    fun acc h kc _ => sparseStep_lower e acc kc h

/-- non-vacuity: mirrored keys, a diagonal key, a constant and a function value -/
example : toSparse [(.ip 0 1, 3), (.ip 1 0, 1), (.ip 2 2, 5), (.f 4, 2), (.one, 7)] =
    ⟨[⟨1, 0, 2⟩, ⟨2, 2, 5⟩], [(4, 2)], 7⟩ := by decide +kernel

end Pepit.C05

#print axioms Pepit.C05.sparse_lower

/-! ## what reaches the solver: the collection order of `_solve_with_wrapper` (`sendOrder`) -/

namespace Pepit.C05
open Pepit

theorem count_cons_map_cons (c : Nat) (l : List Nat) : (l.map Sent.cons).count (Sent.cons c) = l.count c :=
  List.count_map_of_injective l _ (fun _ _ => Sent.cons.inj) c

theorem count_psd_map_psd (m : Nat) (l : List Nat) : (l.map Sent.psd).count (Sent.psd m) = l.count m :=
  List.count_map_of_injective l _ (fun _ _ => Sent.psd.inj) m

theorem count_cons_map_psd (c : Nat) (l : List Nat) : (l.map Sent.psd).count (Sent.cons c) = 0 :=
  List.count_eq_zero.mpr (by simp)

theorem count_psd_map_cons (m : Nat) (l : List Nat) : (l.map Sent.cons).count (Sent.psd m) = 0 :=
  List.count_eq_zero.mpr (by simp)

/-- the functions that the second pass over the functions skips have nothing of their own, so the pass may as
well visit all of them: what is sent is a plain concatenation -/
theorem sendOrder_eq (mcons pepCons pepPsd : List Nat) (funs : List FunSent) (partCons : List (List Nat)) :
    sendOrder mcons pepCons pepPsd funs partCons =
      mcons.map Sent.cons ++ pepCons.map Sent.cons ++ pepPsd.map Sent.psd
        ++ (funs.filter (·.isLeaf)).flatMap (fun f => f.classCons.map Sent.cons ++ f.classPsd.map Sent.psd)
        ++ funs.flatMap (fun f => f.cons.map Sent.cons ++ f.psd.map Sent.psd)
        ++ partCons.flatMap (·.map Sent.cons) := by
  rw [sendOrder, List.flatMap_filter_of_nil (fun f : FunSent => !f.cons.isEmpty || !f.psd.isEmpty)]
  intro f hf
  obtain ⟨hc, hp⟩ : f.cons = [] ∧ f.psd = [] := by simpa [List.isEmpty_iff] using hf
  rw [hc, hp]
  rfl

/-- **every scalar constraint reaches the solver exactly as often as it was declared**: the number of
times `c` is sent is the number of times it occurs among the metric constraints, the problem's
constraints, the class constraints of leaf functions, the own constraints of all functions and the
constraints of the partitions — for every model -/
theorem sent_count_cons (mcons pepCons pepPsd : List Nat) (funs : List FunSent) (partCons : List (List Nat)) (c : Nat) :
    (sendOrder mcons pepCons pepPsd funs partCons).count (Sent.cons c) =
      mcons.count c + pepCons.count c
        + (((funs.filter (·.isLeaf)).map (fun f => f.classCons.count c)).sum)
        + ((funs.map (fun f => f.cons.count c)).sum)
        + ((partCons.map (fun l => l.count c)).sum) := by
  simp only [sendOrder_eq, List.count_append, List.count_flatMap, count_cons_map_cons, count_cons_map_psd,
    Function.comp_def, Nat.add_zero]

/-- **every LMI reaches the solver exactly as often as it was declared** -/
theorem sent_count_psd (mcons pepCons pepPsd : List Nat) (funs : List FunSent) (partCons : List (List Nat)) (m : Nat) :
    (sendOrder mcons pepCons pepPsd funs partCons).count (Sent.psd m) =
      pepPsd.count m
        + (((funs.filter (·.isLeaf)).map (fun f => f.classPsd.count m)).sum)
        + ((funs.map (fun f => f.psd.count m)).sum) := by
  simp only [sendOrder_eq, List.count_append, List.count_flatMap, count_psd_map_cons, count_psd_map_psd,
    Function.comp_def, Nat.zero_add, Nat.add_zero, List.map_const', List.sum_replicate, smul_eq_mul, mul_zero]

/-- non-vacuity: one metric constraint, two problem constraints, one problem LMI, a leaf function with two
class constraints and one own constraint, a composite with an own LMI, one partition constraint -/
example : sendOrder [10] [11, 12] [0]
    [⟨[20, 21], [], [22], [], true⟩, ⟨[99], [], [], [1], false⟩] [[30]] =
  [.cons 10, .cons 11, .cons 12, .psd 0, .cons 20, .cons 21, .cons 22, .psd 1, .cons 30] := by decide

end Pepit.C05

#print axioms Pepit.C05.sent_count_cons
#print axioms Pepit.C05.sent_count_psd

/-! ### what the cvxpy back-end is given for one matrix inequality (`Model/Cvx`, tied to the real
`CvxpyWrapper` by the `dump.cvx` op of the collect stream) -/

namespace Pepit.C05

/-- **every entry of every declared matrix inequality reaches the solver**: for each LMI item of shape `n × n`
and ALL `i, j < n` — above, on and below the diagonal — the equality `M[i, j] == entry_ij` is among the
solver constraints (so the declared matrix, whose entries `(i, j)` and `(j, i)` may be written differently,
is forced to be the symmetric PSD variable `M`) -/
theorem lmi_entries_complete (items : List Item) (id n : Nat) (h : Item.psd id n ∈ items)
    (i j : Nat) (hi : i < n) (hj : j < n) :
    SolverCon.psdEntry id i j ∈ emit items ∧ SolverCon.psdMain id ∈ emit items := by
  refine ⟨mem_emit.mpr (.inr ⟨_, h, ?_⟩), mem_emit.mpr (.inr ⟨_, h, ?_⟩)⟩
  · exact List.mem_cons_of_mem _ (mem_psdEntries.mpr ⟨i, hi, j, hj, rfl⟩)
  · exact List.mem_cons_self

/-- and every scalar constraint item reaches the solver as a constraint of its own -/
theorem scalar_reaches (items : List Item) (id : Nat) (h : Item.cons id ∈ items) : SolverCon.scalar id ∈ emit items :=
  mem_emit.mpr (.inr ⟨_, h, List.mem_singleton_self _⟩)

/-- nothing else is emitted: every solver constraint is the Gram LMI or comes from a declared item -/
theorem emit_only (items : List Item) (c : SolverCon) (h : c ∈ emit items) :
    c = .gram ∨ (∃ id, c = .scalar id ∧ Item.cons id ∈ items) ∨
      (∃ id n, Item.psd id n ∈ items ∧ (c = .psdMain id ∨ ∃ i j, i < n ∧ j < n ∧ c = .psdEntry id i j)) := by
  rcases mem_emit.mp h with h | ⟨it, hit, hc⟩
  · exact .inl h
  · cases it with
    | cons id => exact .inr (.inl ⟨id, List.mem_singleton.mp hc, hit⟩)
    | psd id n =>
      rcases List.mem_cons.mp hc with hc | hc
      · exact .inr (.inr ⟨id, n, hit, .inl hc⟩)
      · obtain ⟨i, hi, j, hj, rfl⟩ := mem_psdEntries.mp hc
        exact .inr (.inr ⟨id, n, hit, .inr ⟨i, j, hi, hj, rfl⟩⟩)

end Pepit.C05

#print axioms Pepit.C05.lmi_entries_complete
#print axioms Pepit.C05.emit_only
