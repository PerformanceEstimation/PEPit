import PepitVerif.Math.WellFormed

/-!
# Property C06: point / expression algebra is a faithful vector-space and inner-product calculus

The homomorphism theorems live next to the semantics (`Math/AlgebraSem`, `Math/WellFormed`) and
are stated on the literal dictionary compositions the overloads perform (`Model/Algebra`):
`PDict.den_add/sub/neg/smul/div`, `EDict.den_add/sub/neg/smul/addConst`, `den_ip`, `den_sq`,
`ConsD.le_spec/ge_spec/eq_spec`, the well-formedness theorems `wf_*` and `add_pruned`.
This file adds the statements that close the property: constants on either side, division by a scalar, comparisons
with scalars, and a non-vacuity example.  (That operands are never altered has no statement here: the operators of
`Model/Algebra` are functions of values, and what the overloads do to their operands is tested on the implementation
by the direct oracle `c06_trees`.)
-/

open RealInnerProductSpace

variable {E : Type*} [NormedAddCommGroup E] [InnerProductSpace ℝ E]

namespace Pepit.C06

/-- `c - e` denotes `c - den e` (the code computes `-(e - c)`) -/
theorem den_rsubConst (v : Nat → E) (φ : Nat → ℝ) (a : EDict) (c : Coef) :
    EDict.den v φ (EDict.rsubConst c a) = ((c : ℚ) : ℝ) - EDict.den v φ a := by
  unfold EDict.rsubConst; rw [EDict.den_neg, EDict.den_subConst]; ring

/-- `e / c` denotes `den e / c` (the code multiplies by `1 / c`; `c = 0` raises) -/
theorem den_ediv (v : Nat → E) (φ : Nat → ℝ) (a : EDict) (c : Coef) :
    EDict.den v φ (EDict.div a c) = EDict.den v φ a / ((c : ℚ) : ℝ) := by
  unfold EDict.div; rw [EDict.den_smul]; push_cast; ring

/-- `e <= c`: the constraint expression denotes `e - c`, sense `≤` -/
theorem leConst_spec (v : Nat → E) (φ : Nat → ℝ) (a : EDict) (c : Coef) :
    (ConsD.leConst a c).isEq = false ∧
    EDict.den v φ (ConsD.leConst a c).e = EDict.den v φ a - ((c : ℚ) : ℝ) :=
  ⟨rfl, EDict.den_subConst v φ a c⟩

/-- `e >= c`: the constraint expression denotes `c - e`, sense `≤` -/
theorem geConst_spec (v : Nat → E) (φ : Nat → ℝ) (a : EDict) (c : Coef) :
    (ConsD.geConst a c).isEq = false ∧
    EDict.den v φ (ConsD.geConst a c).e = ((c : ℚ) : ℝ) - EDict.den v φ a := by
  refine ⟨rfl, (leConst_spec v φ (EDict.neg a) (-c)).2.trans ?_⟩
  rw [EDict.den_neg]; push_cast; ring

/-- `e == c`: the constraint expression denotes `e - c`, sense `=` -/
theorem eqConst_spec (v : Nat → E) (φ : Nat → ℝ) (a : EDict) (c : Coef) :
    (ConsD.eqConst a c).isEq = true ∧
    EDict.den v φ (ConsD.eqConst a c).e = EDict.den v φ a - ((c : ℚ) : ℝ) :=
  ⟨rfl, EDict.den_subConst v φ a c⟩

/-- non-vacuity: a concrete tree with cancellation, a mirrored product and a zero scalar -/
example : PDict.sub [(0, 1), (1, 2)] [(0, 1)] = [(1, 2)] ∧
    PDict.smul 0 [(0, 3)] = [(0, 0)] ∧
    PDict.ip [(0, 1), (1, 1)] [(0, 1), (1, 1)] =
      [(.ip 0 0, 1), (.ip 0 1, 1), (.ip 1 0, 1), (.ip 1 1, 1)] := by decide +kernel

end Pepit.C06

#print axioms Pepit.C06.den_rsubConst
#print axioms Pepit.C06.geConst_spec
