import PepitVerif.Math.ClassForms
import PepitVerif.Math.Convex

/-!
# Property C03: class constraints never exclude a real member of the class

Every theorem is about a definition *regenerated from the source* (`Gen.*`), instantiated on
arbitrary samples of an arbitrary member, in an arbitrary real inner-product space.
`sv xi gi xj gj` / `fvOf fi fj` interpret the symbols of a condition by actual sample data.
-/

open RealInnerProductSpace

variable {E : Type*} [NormedAddCommGroup E] [InnerProductSpace ℝ E]

/-- interpretation of the point symbols by sample data -/
def sv (xi gi xj gj : E) (xs : E := 0) (v : E := 0) (gik : E := 0) (gjk : E := 0) : PSym → E
  | .xi => xi | .gi => gi | .xj => xj | .gj => gj | .xs => xs | .v => v | .gik => gik | .gjk => gjk
/-- interpretation of the value symbols -/
def fvOf (fi fj : ℝ) (fs : ℝ := 0) : FSym → ℝ
  | .fi => fi | .fj => fj | .fs => fs

/-- `g` is a subgradient of `f` at `x` -/
def IsSubgrad (f : E → ℝ) (x g : E) : Prop := ∀ y, f y ≥ f x + ⟪g, y - x⟫

section functions
variable (f : E → ℝ) (xi gi xj gj : E)

theorem ConvexFunction.sound (hj : IsSubgrad f xj gj) :
    QForm.den (sv xi gi xj gj) (fvOf (f xi) (f xj)) Gen.ConvexFunction.convexity ≤ 0 := by
  rw [den_ConvexFunction_convexity]
  exact Canon.convexity_nonpos_iff.2 (hj xi)

theorem StronglyConvexFunction.sound (μ : ℚ)
    (hj : ∀ y, f y ≥ f xj + ⟪gj, y - xj⟫ + (μ : ℝ) / 2 * ‖y - xj‖ ^ 2) :
    QForm.den (sv xi gi xj gj) (fvOf (f xi) (f xj)) (Gen.StronglyConvexFunction.strong_convexity μ) ≤ 0 := by
  rw [den_StronglyConvexFunction_strong_convexity]
  exact Canon.strongConvexity_nonpos_iff.2 (hj xi)

/-- **ConvexLipschitzFunction** (bounded subgradients) -/
theorem ConvexLipschitzFunction.sound_lipschitz (M : ℚ) (hM : 0 ≤ M) (hg : ‖gi‖ ≤ (M : ℝ)) :
    QForm.den (sv xi gi xj gj) (fvOf (f xi) (f xj)) (Gen.ConvexLipschitzFunction.lipschitz_continuity M) ≤ 0 := by
  rw [den_ConvexLipschitzFunction_lipschitz_continuity]
  exact (Canon.gradBound_nonpos_iff (Rat.cast_nonneg.2 hM)).2 hg
theorem ConvexLipschitzFunction.sound_convexity (M : ℚ) (hj : IsSubgrad f xj gj) :
    QForm.den (sv xi gi xj gj) (fvOf (f xi) (f xj)) (Gen.ConvexLipschitzFunction.convexity M) ≤ 0 := by
  rw [den_ConvexLipschitzFunction_convexity]
  exact Canon.convexity_nonpos_iff.2 (hj xi)

/-- **ConvexIndicatorFunction** of a set `C` of diameter at most `D` -/
theorem ConvexIndicatorFunction.sound_value (D : ℚ) (hfi : f xi = 0) :
    QForm.den (sv xi gi xj gj) (fvOf (f xi) (f xj)) (Gen.ConvexIndicatorFunction.value D) = 0 := by
  rw [den_ConvexIndicatorFunction_value]
  exact hfi
theorem ConvexIndicatorFunction.sound_convexity (D : ℚ) (C : Set E) (hxi : xi ∈ C)
    (hj : ∀ y ∈ C, ⟪gj, y - xj⟫ ≤ 0) :
    QForm.den (sv xi gi xj gj) (fvOf (f xi) (f xj)) (Gen.ConvexIndicatorFunction.convexity D) ≤ 0 := by
  rw [den_ConvexIndicatorFunction_convexity]
  exact hj xi hxi
theorem ConvexIndicatorFunction.sound_diameter (D : ℚ) (hD : 0 ≤ D) (hd : ‖xi - xj‖ ≤ (D : ℝ)) :
    QForm.den (sv xi gi xj gj) (fvOf (f xi) (f xj)) (Gen.ConvexIndicatorFunction.diameter D) ≤ 0 := by
  rw [den_ConvexIndicatorFunction_diameter]
  exact (Canon.diameter_nonpos_iff (Rat.cast_nonneg.2 hD)).2 hd

/-- **ConvexQGFunction**: `xi = x⋆` is a minimiser (the stationary sample), `f y − f⋆ ≤ L/2‖y − x⋆‖²` -/
theorem ConvexQGFunction.sound_qg (L : ℚ) (hL : 0 < L) (hj : IsSubgrad f xj gj)
    (hqg : ∀ y, f y - f xi ≤ (L : ℝ) / 2 * ‖y - xi‖ ^ 2) :
    QForm.den (sv xi gi xj gj) (fvOf (f xi) (f xj)) (Gen.ConvexQGFunction.qg_convexity L) ≤ 0 := by
  rw [den_ConvexQGFunction_qg_convexity _ _ L (ne_of_gt hL)]
  -- a step from the minimiser `xi` along `gj`; the upper bound there has gradient `0`
  let z := xi - (1 / (L : ℝ)) • -gj
  have hd : ⟪(0 : E) - gj, -gj⟫ = ‖-gj‖ ^ 2 := by rw [zero_sub, real_inner_self_eq_norm_sq]
  have hup : f z ≤ f xi + ⟪(0 : E), z - xi⟫ + (L : ℝ) / 2 * ‖z - xi‖ ^ 2 := by
    rw [inner_zero_left, add_zero]
    exact sub_le_iff_le_add'.1 (hqg z)
  have h := sc_interp_at (Rat.cast_pos.2 hL) rfl hd (hj z) hup
  show ⟪gj, xi - xj⟫ + 1 / (2 * (L : ℝ)) * ⟪gj, gj⟫ - (f xi - f xj) ≤ 0
  rw [sub_nonpos, real_inner_self_eq_norm_sq, ← norm_neg gj]
  exact h
theorem ConvexQGFunction.sound_convexity (L : ℚ) (hj : IsSubgrad f xj gj) :
    QForm.den (sv xi gi xj gj) (fvOf (f xi) (f xj)) (Gen.ConvexQGFunction.convexity L) ≤ 0 := by
  rw [den_ConvexQGFunction_convexity]
  exact Canon.convexity_nonpos_iff.2 (hj xi)

/-- **ConvexSupportFunction** of a set `C ⊆ B(0, M)`: `gi ∈ C` attains `σ_C(xi) = ⟪gi, xi⟫` -/
theorem ConvexSupportFunction.sound_fenchel (M : ℚ) (hfi : f xi = ⟪gi, xi⟫) :
    QForm.den (sv xi gi xj gj) (fvOf (f xi) (f xj)) (Gen.ConvexSupportFunction.fenchel_value M) = 0 := by
  rw [den_ConvexSupportFunction_fenchel_value]
  exact sub_eq_zero.2 hfi.symm
theorem ConvexSupportFunction.sound_lipschitz (M : ℚ) (hM : 0 ≤ M) (hg : ‖gi‖ ≤ (M : ℝ)) :
    QForm.den (sv xi gi xj gj) (fvOf (f xi) (f xj)) (Gen.ConvexSupportFunction.lipschitz_continuity M) ≤ 0 := by
  rw [den_ConvexSupportFunction_lipschitz_continuity]
  exact (Canon.gradBound_nonpos_iff (Rat.cast_nonneg.2 hM)).2 hg
theorem ConvexSupportFunction.sound_convexity (M : ℚ) (C : Set E) (hgi : gi ∈ C)
    (hj : ∀ c ∈ C, ⟪c, xj⟫ ≤ ⟪gj, xj⟫) :
    QForm.den (sv xi gi xj gj) (fvOf (f xi) (f xj)) (Gen.ConvexSupportFunction.convexity M) ≤ 0 := by
  rw [den_ConvexSupportFunction_convexity]
  show ⟪xj, gi - gj⟫ ≤ 0
  rw [inner_sub_right, sub_nonpos, real_inner_comm gi xj, real_inner_comm gj xj]
  exact hj gi hgi

/-- **RsiEbFunction**: sample `i` is a stationary point `x⋆` (`gi = 0`) -/
theorem RsiEbFunction.sound_rsi (μ L : ℚ) (hrsi : ⟪gj, xj - xi⟫ ≥ (μ : ℝ) * ‖xj - xi‖ ^ 2) :
    QForm.den (sv xi 0 xj gj) (fvOf (f xi) (f xj)) (Gen.RsiEbFunction.rsi μ L) ≤ 0 := by
  rw [den_RsiEbFunction_rsi]
  refine Canon.strongMonotone_nonpos_iff.2 ?_
  show (μ : ℝ) * ‖xi - xj‖ ^ 2 ≤ ⟪0 - gj, xi - xj⟫
  rw [zero_sub, inner_neg_left, ← inner_neg_right, neg_sub, norm_sub_rev]
  exact hrsi
theorem RsiEbFunction.sound_eb (μ L : ℚ) (hL : 0 ≤ L) (heb : ‖gj‖ ≤ (L : ℝ) * ‖xj - xi‖) :
    QForm.den (sv xi 0 xj gj) (fvOf (f xi) (f xj)) (Gen.RsiEbFunction.eb μ L) ≤ 0 := by
  rw [den_RsiEbFunction_eb]
  refine (Canon.lipschitz_nonpos_iff (Rat.cast_nonneg.2 hL)).2 ?_
  show ‖0 - gj‖ ≤ (L : ℝ) * ‖xi - xj‖
  rw [zero_sub, norm_neg, norm_sub_rev]
  exact heb

end functions

section smooth
variable (f : E → ℝ) (g : E → E) (xi xj : E)

/-- L-smooth convex functions, first-order form -/
structure SmoothConvexMember (L : ℝ) (f : E → ℝ) (g : E → E) : Prop where
  convex : ∀ x y, f y ≥ f x + ⟪g x, y - x⟫
  smooth : ∀ x y, f y ≤ f x + ⟪g x, y - x⟫ + L / 2 * ‖y - x‖ ^ 2

/-- L-smooth μ-strongly convex functions, first-order form -/
structure SmoothStronglyConvexMember (μ L : ℝ) (f : E → ℝ) (g : E → E) : Prop where
  strong : ∀ x y, f y ≥ f x + ⟪g x, y - x⟫ + μ / 2 * ‖y - x‖ ^ 2
  smooth : ∀ x y, f y ≤ f x + ⟪g x, y - x⟫ + L / 2 * ‖y - x‖ ^ 2

theorem SmoothConvexFunction.sound (L : ℚ) (hL : 0 < L) (hm : SmoothConvexMember (L : ℝ) f g) :
    QForm.den (sv xi (g xi) xj (g xj)) (fvOf (f xi) (f xj)) (Gen.SmoothConvexFunction.smoothness_convexity L) ≤ 0 := by
  rw [den_SmoothConvexFunction_smoothness_convexity _ _ L (ne_of_gt hL)]
  exact Canon.sc_nonpos_iff.2 (sc_interp f g L (Rat.cast_pos.2 hL) hm.convex hm.smooth xi xj)

/-- **SmoothConvexLipschitzFunction** (smoothness-convexity part; the gradient bound is as for
`ConvexLipschitzFunction`) -/
theorem SmoothConvexLipschitzFunction.sound (L M : ℚ) (hL : 0 < L) (hm : SmoothConvexMember (L : ℝ) f g) :
    QForm.den (sv xi (g xi) xj (g xj)) (fvOf (f xi) (f xj))
      (Gen.SmoothConvexLipschitzFunction.smoothness_convexity L M) ≤ 0 := by
  rw [den_SmoothConvexLipschitzFunction_smoothness_convexity _ _ L M (ne_of_gt hL)]
  exact Canon.sc_nonpos_iff.2 (sc_interp f g L (Rat.cast_pos.2 hL) hm.convex hm.smooth xi xj)

theorem SmoothStronglyConvexFunction.sound (μ L : ℚ) (hμ : 0 ≤ μ) (hμL : μ < L)
    (hm : SmoothStronglyConvexMember (μ : ℝ) (L : ℝ) f g) :
    QForm.den (sv xi (g xi) xj (g xj)) (fvOf (f xi) (f xj))
      (Gen.SmoothStronglyConvexFunction.smoothness_strong_convexity μ L) ≤ 0 := by
  rw [den_SmoothStronglyConvexFunction_smoothness_strong_convexity _ _ μ L
    (ne_of_gt (lt_of_le_of_lt hμ hμL)) (ne_of_lt hμL)]
  rw [Canon.ssc, sub_nonpos, real_inner_self_eq_norm_sq, real_inner_self_eq_norm_sq]
  exact ssc_interp f g μ L (Rat.cast_nonneg.2 hμ) (Rat.cast_lt.2 hμL) hm.strong hm.smooth xi xj

end smooth

section operators
variable (xi gi xj gj : E) (fi fj : ℝ)

theorem MonotoneOperator.sound (h : 0 ≤ ⟪gi - gj, xi - xj⟫) :
    QForm.den (sv xi gi xj gj) (fvOf fi fj) Gen.MonotoneOperator.monotonicity ≤ 0 := by
  rw [den_MonotoneOperator_monotonicity]
  exact neg_nonpos.2 h
theorem StronglyMonotoneOperator.sound (μ : ℚ) (h : (μ : ℝ) * ‖xi - xj‖ ^ 2 ≤ ⟪gi - gj, xi - xj⟫) :
    QForm.den (sv xi gi xj gj) (fvOf fi fj) (Gen.StronglyMonotoneOperator.strong_monotonicity μ) ≤ 0 := by
  rw [den_StronglyMonotoneOperator_strong_monotonicity]
  exact Canon.strongMonotone_nonpos_iff.2 h
theorem CocoerciveOperator.sound (β : ℚ) (h : (β : ℝ) * ‖gi - gj‖ ^ 2 ≤ ⟪gi - gj, xi - xj⟫) :
    QForm.den (sv xi gi xj gj) (fvOf fi fj) (Gen.CocoerciveOperator.cocoercivity β) ≤ 0 := by
  rw [den_CocoerciveOperator_cocoercivity]
  exact Canon.cocoercive_nonpos_iff.2 h
theorem CocoerciveStronglyMonotoneOperator.sound_cocoercivity (μ β : ℚ)
    (h : (β : ℝ) * ‖gi - gj‖ ^ 2 ≤ ⟪gi - gj, xi - xj⟫) :
    QForm.den (sv xi gi xj gj) (fvOf fi fj) (Gen.CocoerciveStronglyMonotoneOperator.cocoercivity μ β) ≤ 0 := by
  rw [den_CocoerciveStronglyMonotoneOperator_cocoercivity]
  exact Canon.cocoercive_nonpos_iff.2 h
theorem CocoerciveStronglyMonotoneOperator.sound_strong_monotonicity (μ β : ℚ)
    (h : (μ : ℝ) * ‖xi - xj‖ ^ 2 ≤ ⟪gi - gj, xi - xj⟫) :
    QForm.den (sv xi gi xj gj) (fvOf fi fj) (Gen.CocoerciveStronglyMonotoneOperator.strong_monotonicity μ β) ≤ 0 := by
  rw [den_CocoerciveStronglyMonotoneOperator_strong_monotonicity]
  exact Canon.strongMonotone_nonpos_iff.2 h
theorem LipschitzOperator.sound (L : ℚ) (hL : 0 ≤ L) (h : ‖gi - gj‖ ≤ (L : ℝ) * ‖xi - xj‖) :
    QForm.den (sv xi gi xj gj) (fvOf fi fj) (Gen.LipschitzOperator.lipschitz_continuity L) ≤ 0 := by
  rw [den_LipschitzOperator_lipschitz_continuity]
  exact (Canon.lipschitz_nonpos_iff (Rat.cast_nonneg.2 hL)).2 h
theorem LipschitzStronglyMonotoneOperator.sound_lipschitz (μ L : ℚ) (hL : 0 ≤ L)
    (h : ‖gi - gj‖ ≤ (L : ℝ) * ‖xi - xj‖) :
    QForm.den (sv xi gi xj gj) (fvOf fi fj) (Gen.LipschitzStronglyMonotoneOperator.lipschitz_continuity μ L) ≤ 0 := by
  rw [den_LipschitzStronglyMonotoneOperator_lipschitz_continuity]
  exact (Canon.lipschitz_nonpos_iff (Rat.cast_nonneg.2 hL)).2 h
theorem LipschitzStronglyMonotoneOperator.sound_strong_monotonicity (μ L : ℚ)
    (h : (μ : ℝ) * ‖xi - xj‖ ^ 2 ≤ ⟪gi - gj, xi - xj⟫) :
    QForm.den (sv xi gi xj gj) (fvOf fi fj) (Gen.LipschitzStronglyMonotoneOperator.strong_monotonicity μ L) ≤ 0 := by
  rw [den_LipschitzStronglyMonotoneOperator_strong_monotonicity]
  exact Canon.strongMonotone_nonpos_iff.2 h
theorem NegativelyComonotoneOperator.sound (ρ : ℚ) (h : -((ρ : ℝ) * ‖gi - gj‖ ^ 2) ≤ ⟪gi - gj, xi - xj⟫) :
    QForm.den (sv xi gi xj gj) (fvOf fi fj) (Gen.NegativelyComonotoneOperator.negative_comonotonicity ρ) ≤ 0 := by
  rw [den_NegativelyComonotoneOperator_negative_comonotonicity]
  show -(⟪gi - gj, xi - xj⟫ + (ρ : ℝ) * ⟪gi - gj, gi - gj⟫) ≤ 0
  rw [neg_nonpos, real_inner_self_eq_norm_sq]
  exact neg_le_iff_add_nonneg.1 h
theorem NonexpansiveOperator.sound (h : ‖gi - gj‖ ≤ ‖xi - xj‖) :
    QForm.den (sv xi gi xj gj) (fvOf fi fj) Gen.NonexpansiveOperator.nonexpansiveness ≤ 0 := by
  rw [den_NonexpansiveOperator_nonexpansiveness]
  show ⟪gi - gj, gi - gj⟫ - ⟪xi - xj, xi - xj⟫ ≤ 0
  rw [sub_nonpos, real_inner_self_eq_norm_sq (xi - xj), real_inner_self_le_sq_iff (norm_nonneg _)]
  exact h
/-- infimal displacement vector `v` of a nonexpansive `T` (`gi = T xi`): `‖v‖² ≤ ⟪xi − T xi, v⟫` -/
theorem NonexpansiveOperator.sound_displacement (v : E) (h : ‖v‖ ^ 2 ≤ ⟪xi - gi, v⟫) :
    QForm.den (sv xi gi xj gj 0 v) (fvOf fi fj) Gen.NonexpansiveOperator.infimal_displacement_vector ≤ 0 := by
  rw [den_NonexpansiveOperator_infimal_displacement_vector]
  show ⟪v, v⟫ - ⟪xi - gi, v⟫ ≤ 0
  rw [sub_nonpos, real_inner_self_eq_norm_sq]
  exact h

/-- **LinearOperator**: `(xi, gi) = (x, M x)`, `(xj, gj) = (u, Mᵗ u)` with `⟪M x, u⟫ = ⟪x, Mᵗ u⟫` -/
theorem LinearOperator.sound_adjoint (L : ℚ) (h : ⟪gi, xj⟫ = ⟪xi, gj⟫) :
    QForm.den (sv xi gi xj gj) (fvOf fi fj) (Gen.LinearOperator.adjoint L) = 0 := by
  rw [den_LinearOperator_adjoint]
  exact sub_eq_zero.2 h.symm
/-- **SymmetricLinearOperator**: `gi = A xi`, `gj = A xj`, `A` self-adjoint -/
theorem SymmetricLinearOperator.sound_symmetry (μ L : ℚ) (h : ⟪xi, gj⟫ = ⟪gi, xj⟫) :
    QForm.den (sv xi gi xj gj) (fvOf fi fj) (Gen.SymmetricLinearOperator.symmetric_linearity μ L) = 0 := by
  rw [den_SymmetricLinearOperator_symmetric_linearity]
  exact sub_eq_zero.2 (h.trans (real_inner_comm xj gi))
/-- **SkewSymmetricLinearOperator**: `⟪xi, A xj⟫ = −⟪A xi, xj⟫` -/
theorem SkewSymmetricLinearOperator.sound_antisymmetry (L : ℚ) (h : ⟪xi, gj⟫ = -⟪gi, xj⟫) :
    QForm.den (sv xi gi xj gj) (fvOf fi fj) (Gen.SkewSymmetricLinearOperator.antisymmetric_linearity L) = 0 := by
  rw [den_SkewSymmetricLinearOperator_antisymmetric_linearity]
  show ⟪xi, gj⟫ + ⟪xj, gi⟫ = 0
  rw [h, real_inner_comm gi xj]
  exact neg_add_cancel _

end operators

/-- non-vacuity: `f = (L/2)‖·‖²` with `g = L • id` is a member (for `μ ≤ L`). -/
example (μ L : ℝ) (hμL : μ ≤ L) :
    SmoothStronglyConvexMember μ L (fun x : E => L / 2 * ‖x‖ ^ 2) (fun x => L • x) := by
  -- `f` is its own second-order expansion, with curvature exactly `L`: the upper bound is an equality
  have h : ∀ x y : E, L / 2 * ‖y‖ ^ 2 = L / 2 * ‖x‖ ^ 2 + ⟪L • x, y - x⟫ + L / 2 * ‖y - x‖ ^ 2 := by
    intro x y
    rw [real_inner_smul_left, ← add_sub_cancel x y, norm_add_sq_real, add_sub_cancel_left]
    ring
  refine ⟨fun x y => ?_, fun x y => (h x y).le⟩
  have := mul_nonneg (sub_nonneg.2 hμL) (sq_nonneg ‖y - x‖)
  linear_combination this / 2 - h x y
