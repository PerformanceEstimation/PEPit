import PepitVerif.Props.C03
import Mathlib.Analysis.Convex.Hull
import Mathlib.Analysis.Normed.Module.Convex

/-!
# Property C04, sufficiency ("a finite primal value is attained by a real member of the class")

For the classes whose interpolating member has a closed form — `ConvexFunction`,
`ConvexLipschitzFunction`, `StronglyConvexFunction`, `ConvexSupportFunction`, `ConvexIndicatorFunction` — every finite family of samples that satisfies
the *regenerated* constraints (`Gen.*`) on every pair of distinct samples (every such pair is
instantiated: `mem_pairsOf`) is the trace of a real member: the pointwise maximum of the affine
(resp. quadratic) minorants, and for `ConvexIndicatorFunction` the indicator of the convex hull of the sample points.  Together with the `sound` theorems of C03 this makes the generated
conditions necessary and sufficient for these classes.  (For the smooth classes the interpolating
member is built by conjugation; that direction is literature-trusted, see the trusted base.)
-/

open RealInnerProductSpace

variable {E : Type*} [NormedAddCommGroup E] [InnerProductSpace ℝ E]
variable {ι : Type*} [Fintype ι] [Nonempty ι]

namespace Pepit.C04

/-- the candidate member: maximum of the minorants `f j + ⟪g j, y - x j⟫ + μ/2 ‖y - x j‖²` -/
noncomputable def maxMinorant (μ : ℝ) (x g : ι → E) (f : ι → ℝ) (y : E) : ℝ :=
  Finset.univ.sup' Finset.univ_nonempty (fun j => f j + ⟪g j, y - x j⟫ + μ / 2 * ‖y - x j‖ ^ 2)

theorem piece_le (μ : ℝ) (x g : ι → E) (f : ι → ℝ) (y : E) (j : ι) :
    f j + ⟪g j, y - x j⟫ + μ / 2 * ‖y - x j‖ ^ 2 ≤ maxMinorant μ x g f y :=
  Finset.le_sup' (fun j => f j + ⟪g j, y - x j⟫ + μ / 2 * ‖y - x j‖ ^ 2) (Finset.mem_univ j)

theorem maxMinorant_le (μ : ℝ) (x g : ι → E) (f : ι → ℝ) (y : E) (c : ℝ)
    (h : ∀ j, f j + ⟪g j, y - x j⟫ + μ / 2 * ‖y - x j‖ ^ 2 ≤ c) : maxMinorant μ x g f y ≤ c :=
  Finset.sup'_le _ _ (fun j _ => h j)

theorem maxMinorant_interp (μ : ℝ) (x g : ι → E) (f : ι → ℝ)
    (h : ∀ i j, i ≠ j → f i ≥ f j + ⟪g j, x i - x j⟫ + μ / 2 * ‖x i - x j‖ ^ 2) (i : ι) :
    maxMinorant μ x g f (x i) = f i := by
  apply le_antisymm
  · refine maxMinorant_le μ x g f (x i) (f i) (fun j => ?_)
    rcases eq_or_ne i j with rfl | hij
    · simp
    · exact h i j hij
  · simpa using piece_le μ x g f (x i) i

theorem combo_sub (a b c : E) (t : ℝ) :
    t • a + (1 - t) • b - c = t • (a - c) + (1 - t) • (b - c) := by
  rw [smul_sub, smul_sub, ← add_sub_add_comm, ← add_smul, add_sub_cancel, one_smul]

/-- norm identity behind strong convexity of each piece -/
theorem norm_combo_sq (a b c : E) (t : ℝ) :
    ‖t • a + (1 - t) • b - c‖ ^ 2
      = t * ‖a - c‖ ^ 2 + (1 - t) * ‖b - c‖ ^ 2 - t * (1 - t) * ‖a - b‖ ^ 2 := by
  simp only [gram_expand]
  ring

/-- the maximum is `μ`-strongly convex (convex when `μ = 0`): each piece is, by `norm_combo_sq` -/
theorem maxMinorant_convex (μ : ℝ) (x g : ι → E) (f : ι → ℝ) (a b : E) (t : ℝ) (h0 : 0 ≤ t) (h1 : t ≤ 1) :
    maxMinorant μ x g f (t • a + (1 - t) • b)
      ≤ t * maxMinorant μ x g f a + (1 - t) * maxMinorant μ x g f b - μ / 2 * t * (1 - t) * ‖a - b‖ ^ 2 := by
  apply maxMinorant_le
  intro j
  have ha := mul_le_mul_of_nonneg_left (piece_le μ x g f a j) h0
  have hb := mul_le_mul_of_nonneg_left (piece_le μ x g f b j) (sub_nonneg.2 h1)
  rw [norm_combo_sq, combo_sub, inner_add_right, real_inner_smul_right, real_inner_smul_right]
  linear_combination ha + hb

/-- **The maximum of the minorants interpolates.**  Samples that satisfy the `μ`-strong-convexity
inequality on every pair of distinct indices are the values and (strong) subgradients of the
`μ`-strongly convex function `maxMinorant μ x g f`. -/
theorem maxMinorant_spec (μ : ℝ) (x g : ι → E) (f : ι → ℝ)
    (h : ∀ i j, i ≠ j → f i ≥ f j + ⟪g j, x i - x j⟫ + μ / 2 * ‖x i - x j‖ ^ 2) :
    (∀ a b t, 0 ≤ t → t ≤ 1 → maxMinorant μ x g f (t • a + (1 - t) • b)
      ≤ t * maxMinorant μ x g f a + (1 - t) * maxMinorant μ x g f b - μ / 2 * t * (1 - t) * ‖a - b‖ ^ 2) ∧
    ∀ i, maxMinorant μ x g f (x i) = f i ∧
      ∀ y, maxMinorant μ x g f y ≥ maxMinorant μ x g f (x i) + ⟪g i, y - x i⟫ + μ / 2 * ‖y - x i‖ ^ 2 := by
  refine ⟨maxMinorant_convex μ x g f, fun i => ⟨maxMinorant_interp μ x g f h i, fun y => ?_⟩⟩
  rw [maxMinorant_interp μ x g f h i]
  exact piece_le μ x g f y i

theorem maxMinorant_zero_spec (x g : ι → E) (f : ι → ℝ)
    (h : ∀ i j, i ≠ j → f i ≥ f j + ⟪g j, x i - x j⟫) :
    (∀ a b t, 0 ≤ t → t ≤ 1 → maxMinorant 0 x g f (t • a + (1 - t) • b)
      ≤ t * maxMinorant 0 x g f a + (1 - t) * maxMinorant 0 x g f b) ∧
    ∀ i, maxMinorant 0 x g f (x i) = f i ∧ IsSubgrad (maxMinorant 0 x g f) (x i) (g i) := by
  simpa only [zero_div, zero_mul, add_zero, sub_zero, IsSubgrad] using
    maxMinorant_spec 0 x g f (by simpa only [zero_div, zero_mul, add_zero] using h)

theorem maxMinorant_lipschitz (M : ℝ) (x g : ι → E) (f : ι → ℝ) (hg : ∀ j, ‖g j‖ ≤ M) (y z : E) :
    |maxMinorant 0 x g f y - maxMinorant 0 x g f z| ≤ M * ‖y - z‖ := by
  have one_side : ∀ y z, maxMinorant 0 x g f y ≤ maxMinorant 0 x g f z + M * ‖y - z‖ := by
    intro y z
    apply maxMinorant_le
    intro j
    have hz := piece_le 0 x g f z j
    have hcs : ⟪g j, y - z⟫ ≤ M * ‖y - z‖ :=
      (real_inner_le_norm _ _).trans (mul_le_mul_of_nonneg_right (hg j) (norm_nonneg _))
    rw [← sub_add_sub_cancel y z (x j), inner_add_right]
    linear_combination hz + hcs
  refine abs_sub_le_iff.2 ⟨sub_le_iff_le_add'.2 (one_side y z), ?_⟩
  rw [norm_sub_rev]
  exact sub_le_iff_le_add'.2 (one_side z y)

/-- **ConvexFunction: the generated constraints are sufficient.**  Samples satisfying the regenerated
`convexity` constraint on every ordered pair of distinct samples are the values and subgradients of a
real convex function. -/
theorem ConvexFunction.interpolable (x g : ι → E) (f : ι → ℝ)
    (h : ∀ i j, i ≠ j →
      QForm.den (sv (x i) (g i) (x j) (g j)) (fvOf (f i) (f j)) Gen.ConvexFunction.convexity ≤ 0) :
    ∃ F : E → ℝ,
      (∀ a b t, 0 ≤ t → t ≤ 1 → F (t • a + (1 - t) • b) ≤ t * F a + (1 - t) * F b) ∧
      ∀ i, F (x i) = f i ∧ IsSubgrad F (x i) (g i) := by
  simp only [den_ConvexFunction_convexity, Canon.convexity_nonpos_iff] at h
  exact ⟨maxMinorant 0 x g f, maxMinorant_zero_spec x g f h⟩

/-- **ConvexLipschitzFunction: sufficient**, with the Lipschitz bound of the member -/
theorem ConvexLipschitzFunction.interpolable (M : ℚ) (hM : 0 ≤ M) (x g : ι → E) (f : ι → ℝ)
    (hc : ∀ i j, i ≠ j →
      QForm.den (sv (x i) (g i) (x j) (g j)) (fvOf (f i) (f j)) (Gen.ConvexLipschitzFunction.convexity M) ≤ 0)
    (hl : ∀ i, QForm.den (sv (x i) (g i) (x i) (g i)) (fvOf (f i) (f i))
      (Gen.ConvexLipschitzFunction.lipschitz_continuity M) ≤ 0) :
    ∃ F : E → ℝ,
      (∀ a b t, 0 ≤ t → t ≤ 1 → F (t • a + (1 - t) • b) ≤ t * F a + (1 - t) * F b) ∧
      (∀ y z, |F y - F z| ≤ (M : ℝ) * ‖y - z‖) ∧
      ∀ i, F (x i) = f i ∧ IsSubgrad F (x i) (g i) := by
  simp only [den_ConvexLipschitzFunction_convexity, Canon.convexity_nonpos_iff] at hc
  simp only [den_ConvexLipschitzFunction_lipschitz_continuity,
    Canon.gradBound_nonpos_iff (Rat.cast_nonneg.2 hM)] at hl
  obtain ⟨hconv, hinterp⟩ := maxMinorant_zero_spec x g f hc
  exact ⟨maxMinorant 0 x g f, hconv, maxMinorant_lipschitz M x g f hl, hinterp⟩

/-- **StronglyConvexFunction: sufficient** -/
theorem StronglyConvexFunction.interpolable (μ : ℚ) (x g : ι → E) (f : ι → ℝ)
    (h : ∀ i j, i ≠ j →
      QForm.den (sv (x i) (g i) (x j) (g j)) (fvOf (f i) (f j)) (Gen.StronglyConvexFunction.strong_convexity μ) ≤ 0) :
    ∃ F : E → ℝ,
      (∀ a b t, 0 ≤ t → t ≤ 1 →
        F (t • a + (1 - t) • b) ≤ t * F a + (1 - t) * F b - (μ : ℝ) / 2 * t * (1 - t) * ‖a - b‖ ^ 2) ∧
      ∀ i, F (x i) = f i ∧ ∀ y, F y ≥ F (x i) + ⟪g i, y - x i⟫ + (μ : ℝ) / 2 * ‖y - x i‖ ^ 2 := by
  simp only [den_StronglyConvexFunction_strong_convexity, Canon.strongConvexity_nonpos_iff] at h
  exact ⟨maxMinorant μ x g f, maxMinorant_spec μ x g f h⟩

/-- non-vacuity: two samples of `|·|` on the real line (points ±1, subgradients ±1, values 1) meet the
hypothesis of `ConvexFunction.interpolable` -/
example : ∀ i j : Fin 2, i ≠ j →
    QForm.den (sv ((if i = 0 then (1 : ℝ) else -1)) (if i = 0 then (1 : ℝ) else -1)
        (if j = 0 then (1 : ℝ) else -1) (if j = 0 then (1 : ℝ) else -1)) (fvOf 1 1)
      Gen.ConvexFunction.convexity ≤ 0 := by
  intro i j hij
  rw [den_ConvexFunction_convexity]
  simp only [Canon.convexity, sv, fvOf]
  fin_cases i <;> fin_cases j <;> simp at hij ⊢

/-- **ConvexSupportFunction: sufficient.**  Samples satisfying the regenerated `fenchel_value`, `lipschitz_continuity`
and `convexity` constraints are the values and subgradients of the support function of the finite set
`{g_j}` — a convex, positively homogeneous, `M`-Lipschitz function -/
theorem ConvexSupportFunction.interpolable (M : ℚ) (hM : 0 ≤ M) (x g : ι → E) (f : ι → ℝ)
    (hf : ∀ i, QForm.den (sv (x i) (g i) (x i) (g i)) (fvOf (f i) (f i)) (Gen.ConvexSupportFunction.fenchel_value M) = 0)
    (hl : ∀ i, QForm.den (sv (x i) (g i) (x i) (g i)) (fvOf (f i) (f i)) (Gen.ConvexSupportFunction.lipschitz_continuity M) ≤ 0)
    (hc : ∀ i j, i ≠ j →
      QForm.den (sv (x i) (g i) (x j) (g j)) (fvOf (f i) (f j)) (Gen.ConvexSupportFunction.convexity M) ≤ 0) :
    ∃ F : E → ℝ,
      (∀ a b t, 0 ≤ t → t ≤ 1 → F (t • a + (1 - t) • b) ≤ t * F a + (1 - t) * F b) ∧
      (∀ y z, |F y - F z| ≤ (M : ℝ) * ‖y - z‖) ∧
      (∀ (c : ℝ) y, 0 ≤ c → F (c • y) = c * F y) ∧
      ∀ i, F (x i) = f i ∧ IsSubgrad F (x i) (g i) := by
  simp only [den_ConvexSupportFunction_fenchel_value, Canon.fenchel, sv, fvOf, sub_eq_zero] at hf
  simp only [den_ConvexSupportFunction_lipschitz_continuity,
    Canon.gradBound_nonpos_iff (Rat.cast_nonneg.2 hM)] at hl
  simp only [den_ConvexSupportFunction_convexity, Canon.supportConvexity, sv, inner_sub_right,
    sub_nonpos] at hc
  -- the support function of `{g j}`: by `hf` the minorants have no offset
  have piece : ∀ y j, f j + ⟪g j, y - x j⟫ = ⟪g j, y⟫ := by
    intro y j
    rw [← hf j, inner_sub_right, add_sub_cancel]
  have hval : ∀ y, maxMinorant 0 x g f y
      = Finset.univ.sup' Finset.univ_nonempty (fun j => ⟪g j, y⟫) := by
    intro y
    simp only [maxMinorant, zero_div, zero_mul, add_zero, piece]
  have h : ∀ i j, i ≠ j → f i ≥ f j + ⟪g j, x i - x j⟫ := by
    intro i j hij
    rw [piece, ← hf i, real_inner_comm (x i) (g i), real_inner_comm (x i) (g j)]
    exact hc j i hij.symm
  obtain ⟨hconv, hinterp⟩ := maxMinorant_zero_spec x g f h
  refine ⟨maxMinorant 0 x g f, hconv, maxMinorant_lipschitz M x g f hl, ?_, hinterp⟩
  intro c y hc0
  rw [hval, hval]
  simp only [real_inner_smul_right]
  exact (Finset.apply_sup'_eq_sup'_comp Finset.univ_nonempty (c * ·)
    (fun a b => mul_max_of_nonneg a b hc0)).symm

/-- **ConvexIndicatorFunction: sufficient.**  Samples satisfying the regenerated `value`, `convexity` (normal cone)
and `diameter` constraints are the trace of the indicator function of a convex set of diameter at most `D`: the
convex hull of the sample points -/
theorem ConvexIndicatorFunction.interpolable (D : ℚ) (hD : 0 ≤ D) (x g : ι → E) (f : ι → ℝ)
    (hv : ∀ i, QForm.den (sv (x i) (g i) (x i) (g i)) (fvOf (f i) (f i)) (Gen.ConvexIndicatorFunction.value D) = 0)
    (hn : ∀ i j, i ≠ j →
      QForm.den (sv (x i) (g i) (x j) (g j)) (fvOf (f i) (f j)) (Gen.ConvexIndicatorFunction.convexity D) ≤ 0)
    (hd : ∀ i j, i ≠ j →
      QForm.den (sv (x i) (g i) (x j) (g j)) (fvOf (f i) (f j)) (Gen.ConvexIndicatorFunction.diameter D) ≤ 0) :
    ∃ C : Set E, Convex ℝ C ∧ (∀ y ∈ C, ∀ z ∈ C, ‖y - z‖ ≤ (D : ℝ)) ∧
      ∀ i, x i ∈ C ∧ f i = 0 ∧ ∀ y ∈ C, ⟪g i, y - x i⟫ ≤ 0 := by
  simp only [den_ConvexIndicatorFunction_value, Canon.valueZero, fvOf] at hv
  simp only [den_ConvexIndicatorFunction_convexity, Canon.normalCone, sv] at hn
  simp only [den_ConvexIndicatorFunction_diameter,
    Canon.diameter_nonpos_iff (Rat.cast_nonneg.2 hD)] at hd
  refine ⟨convexHull ℝ (Set.range x), convex_convexHull ℝ _, ?_,
    fun i => ⟨subset_convexHull ℝ _ ⟨i, rfl⟩, hv i, ?_⟩⟩
  · -- diameter: two points of the hull are no further apart than some two sample points
    intro y hy z hz
    obtain ⟨_, ⟨i, rfl⟩, _, ⟨j, rfl⟩, hyz⟩ := convexHull_exists_dist_ge2 hy hz
    rw [← dist_eq_norm]
    refine hyz.trans ?_
    rcases eq_or_ne i j with rfl | hij
    · rw [dist_self]
      exact Rat.cast_nonneg.2 hD
    · rw [dist_eq_norm]
      exact hd i j hij
  · -- normal cone: a half-space containing every sample point contains the hull
    intro y hy
    have hsub : Set.range x ⊆ {y | ⟪g i, y⟫ ≤ ⟪g i, x i⟫} := by
      rintro _ ⟨j, rfl⟩
      show ⟪g i, x j⟫ ≤ ⟪g i, x i⟫
      rcases eq_or_ne j i with rfl | hji
      · exact le_rfl
      · have := hn j i hji
        rwa [inner_sub_right, sub_nonpos] at this
    have := convexHull_min hsub (convex_halfSpace_le (innerₗ E (g i)).isLinear _) hy
    rw [inner_sub_right, sub_nonpos]
    exact this

end Pepit.C04
