import Mathlib.Analysis.InnerProductSpace.GramMatrix
import PepitVerif.Math.Certificate
import PepitVerif.Props.C03

/-!
# Property C09: no real run of a modelled method on a real function beats the returned bound

`pipeline_sound`: take any real execution — actual vectors `v i` in any real inner-product space for
the leaf points, actual numbers for the leaf function values.  If the sent scalar constraints and
LMIs hold at the Gram matrix of those vectors (for class constraints this is exactly what the
`sound` theorems of C03 give for members of the class, for step constraints what the `real_sound`
theorems of C08 give, for initial conditions it is the admissibility of the starting point), and the
multipliers certify `τ` (the identity of C01), then the performance of that execution is at most
`τ`.  The Gram matrix of actual vectors is positive semidefinite (`Matrix.posSemidef_gram`), so no
hypothesis on it is needed: this is what makes the bound valid in every dimension.
-/

open RealInnerProductSpace

variable {E : Type*} [NormedAddCommGroup E] [InnerProductSpace ℝ E]

namespace Pepit.C09

/-- **soundness of the pipeline for every real execution** -/
theorem pipeline_sound {ι κ n m : Type*} [Fintype ι] [Fintype κ] [Fintype n] [DecidableEq n]
    {p : κ → Type*} [∀ k, Fintype (p k)] [∀ k, DecidableEq (p k)]
    (obj : Matrix n n ℝ × (m → ℝ) → ℝ) (τ : ℝ)
    (cons : ι → Matrix n n ℝ × (m → ℝ) → ℝ) (isEq : ι → Bool) (lam : ι → ℝ) (S : Matrix n n ℝ)
    (T : (k : κ) → Matrix n n ℝ × (m → ℝ) → Matrix (p k) (p k) ℝ) (Lam : (k : κ) → Matrix (p k) (p k) ℝ)
    (hid : ∀ x, obj x - τ = (∑ i, lam i * cons i x) - (S * x.1).trace - ∑ k, (Lam k * T k x).trace)
    (hlam : ∀ i, isEq i = false → 0 ≤ lam i) (hS : S.PosSemidef) (hLam : ∀ k, (Lam k).PosSemidef)
    -- the real execution
    (v : n → E) (F : m → ℝ)
    (hfeas : ∀ i, if isEq i then cons i (Matrix.gram ℝ v, F) = 0 else cons i (Matrix.gram ℝ v, F) ≤ 0)
    (hT : ∀ k, (T k (Matrix.gram ℝ v, F)).PosSemidef) :
    obj (Matrix.gram ℝ v, F) ≤ τ :=
  cert_sound obj τ cons isEq lam (fun x => x.1) S T Lam hid hlam hS hLam (Matrix.gram ℝ v, F) hfeas
    (Matrix.posSemidef_gram ℝ v) hT

/-- one concrete link of the chain, end to end: for *every* convex function with `L`-Lipschitz
gradient (first-order form), every pair of points, the smooth-convex class constraint generated by
the library (regenerated formula) holds at the actual gradients and values — so `hfeas` above is
discharged for that class by C03, not assumed -/
theorem smooth_convex_constraint_holds (f : E → ℝ) (g : E → E) (L : ℚ) (hL : 0 < L)
    (hm : SmoothConvexMember (L : ℝ) f g) (xi xj : E) :
    QForm.den (sv xi (g xi) xj (g xj)) (fvOf (f xi) (f xj)) (Gen.SmoothConvexFunction.smoothness_convexity L) ≤ 0 :=
  SmoothConvexFunction.sound f g xi xj L hL hm

end Pepit.C09

#print axioms Pepit.C09.pipeline_sound
#print axioms Pepit.C09.smooth_convex_constraint_holds
