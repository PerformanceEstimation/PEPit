import PepitVerif.Props.C03

/-!
# Property C03, matrix-inequality classes (and `SmoothFunction`)
-/

open RealInnerProductSpace Finset

variable {E : Type*} [NormedAddCommGroup E] [InnerProductSpace ℝ E]

theorem quadform_inner {ι : Type*} [Fintype ι] (c : ι → ℝ) (a b : ι → E) :
    ∑ i, ∑ j, c i * c j * ⟪a i, b j⟫ = ⟪∑ i, c i • a i, ∑ j, c j • b j⟫ := by
  rw [sum_inner]
  refine Finset.sum_congr rfl fun i _ => ?_
  rw [inner_sum]
  refine Finset.sum_congr rfl fun j _ => ?_
  rw [real_inner_smul_left, real_inner_smul_right]
  ring

theorem quadform_inner_map {ι : Type*} [Fintype ι] (c : ι → ℝ) (x : ι → E) (S T : E →ₗ[ℝ] E) :
    ∑ i, ∑ j, c i * c j * ⟪S (x i), T (x j)⟫ = ⟪S (∑ i, c i • x i), T (∑ i, c i • x i)⟫ := by
  rw [map_sum, map_sum]
  simp only [map_smul]
  exact quadform_inner c _ _

/-- If `⟪L z − A z, A z − μ z⟫ ≥ 0` for every `z` (for self-adjoint `A`: spectrum in `[μ, L]`), the
matrix `(⟪L wᵢ − A wᵢ, A wⱼ − μ wⱼ⟫)` has a nonnegative quadratic form: its value at `c` is that
expression at `z = Σ cᵢ wᵢ`. -/
theorem spectral_gram_nonneg {ι : Type*} [Fintype ι] (c : ι → ℝ) (w : ι → E) (μ L : ℝ) (A : E →ₗ[ℝ] E)
    (hspec : ∀ z, 0 ≤ ⟪L • z - A z, A z - μ • z⟫) :
    0 ≤ ∑ i, ∑ j, c i * c j * ⟪L • w i - A (w i), A (w j) - μ • w j⟫ := by
  have h := quadform_inner_map c w (L • LinearMap.id - A) (A - μ • LinearMap.id)
  simp only [LinearMap.sub_apply, LinearMap.smul_apply, LinearMap.id_apply] at h
  rw [h]
  exact hspec _

theorem spectral_entry (A : E →ₗ[ℝ] E) (hsym : ∀ u w, ⟪A u, w⟫ = ⟪u, A w⟫) (μ L : ℝ) (u v : E) :
    L * ⟪A u, v⟫ - ⟪A u, A v⟫ - μ * L * ⟪u, v⟫ + μ * ⟪u, A v⟫ = ⟪L • u - A u, A v - μ • v⟫ := by
  simp only [inner_sub_left, inner_sub_right, real_inner_smul_left, real_inner_smul_right]
  rw [hsym u v]
  ring

section linear
variable {n : Nat} (x : Fin n → E) (c : Fin n → ℝ) (fi fj : ℝ)

/-- **LinearOperator**, first LMI (`L² XᵀX − YᵀY ⪰ 0`): for any number of samples of a linear map
with `‖M z‖ ≤ L‖z‖`, the generated matrix is symmetric and its quadratic form is nonnegative. -/
theorem LinearOperator.sound_lmi0 (L : ℚ) (M : E →ₗ[ℝ] E) (hM : ∀ z, ‖M z‖ ≤ (L : ℝ) * ‖z‖) (hL : 0 ≤ L) :
    0 ≤ ∑ i, ∑ j, c i * c j *
        QForm.den (sv (x i) (M (x i)) (x j) (M (x j))) (fvOf fi fj) (Gen.LinearOperator.lmi0_entry L) := by
  simp only [den_LinearOperator_lmi0_entry, Canon.normLmi, sv, mul_sub, Finset.sum_sub_distrib,
    mul_left_comm _ ((L : ℝ) ^ 2), ← Finset.mul_sum]
  -- the form at `c` is `L² ‖z‖² − ‖M z‖²` at `z = Σ cᵢ xᵢ`
  rw [quadform_inner c x x, quadform_inner_map c x M M, sub_nonneg,
    real_inner_self_eq_norm_sq (∑ i, c i • x i), ← mul_pow]
  exact (real_inner_self_le_sq_iff (mul_nonneg (Rat.cast_nonneg.2 hL) (norm_nonneg _))).2 (hM _)

theorem LinearOperator.adjoint_bound (L : ℝ) (M Mt : E →ₗ[ℝ] E) (hM : ∀ z, ‖M z‖ ≤ L * ‖z‖) (hL : 0 ≤ L)
    (hadj : ∀ a b, ⟪M a, b⟫ = ⟪a, Mt b⟫) (y : E) : ‖Mt y‖ ≤ L * ‖y‖ := by
  rcases (norm_nonneg (Mt y)).eq_or_lt with h0 | hpos
  · rw [← h0]
    exact mul_nonneg hL (norm_nonneg y)
  · refine le_of_mul_le_mul_left ?_ hpos
    calc ‖Mt y‖ * ‖Mt y‖ = ⟪M (Mt y), y⟫ := by rw [hadj, real_inner_self_eq_norm_sq, sq]
      _ ≤ ‖M (Mt y)‖ * ‖y‖ := real_inner_le_norm _ _
      _ ≤ L * ‖Mt y‖ * ‖y‖ := mul_le_mul_of_nonneg_right (hM _) (norm_nonneg y)
      _ = ‖Mt y‖ * (L * ‖y‖) := by ring

/-- **LinearOperator**, second LMI (over the samples `(u, v = Mᵀu)` of the adjoint): same entry
formula, sound because the adjoint obeys the same norm bound -/
theorem LinearOperator.sound_lmi1 (L : ℚ) (M Mt : E →ₗ[ℝ] E) (hM : ∀ z, ‖M z‖ ≤ (L : ℝ) * ‖z‖) (hL : 0 ≤ L)
    (hadj : ∀ a b, ⟪M a, b⟫ = ⟪a, Mt b⟫) (u : Fin n → E) :
    0 ≤ ∑ i, ∑ j, c i * c j *
        QForm.den (sv (u i) (Mt (u i)) (u j) (Mt (u j))) (fvOf fi fj) (Gen.LinearOperator.lmi0_entry L) :=
  LinearOperator.sound_lmi0 u c fi fj L Mt
    (LinearOperator.adjoint_bound (L : ℝ) M Mt hM (Rat.cast_nonneg.2 hL) hadj) hL

theorem LinearOperator.lmi0_symmetric (L : ℚ) (M : E →ₗ[ℝ] E) (i j : Fin n) :
    QForm.den (sv (x i) (M (x i)) (x j) (M (x j))) (fvOf fi fj) (Gen.LinearOperator.lmi0_entry L)
      = QForm.den (sv (x j) (M (x j)) (x i) (M (x i))) (fvOf fi fj) (Gen.LinearOperator.lmi0_entry L) := by
  simp only [den_LinearOperator_lmi0_entry, Canon.normLmi, sv]
  rw [real_inner_comm (x i) (x j), real_inner_comm (M (x i)) (M (x j))]

/-- **SkewSymmetricLinearOperator**, LMI (`L² XᵀX − GᵀG ⪰ 0`) -/
theorem SkewSymmetricLinearOperator.sound_lmi0 (L : ℚ) (A : E →ₗ[ℝ] E) (hA : ∀ z, ‖A z‖ ≤ (L : ℝ) * ‖z‖)
    (hL : 0 ≤ L) :
    0 ≤ ∑ i, ∑ j, c i * c j *
        QForm.den (sv (x i) (A (x i)) (x j) (A (x j))) (fvOf fi fj) (Gen.SkewSymmetricLinearOperator.lmi0_entry L) := by
  simpa only [den_LinearOperator_lmi0_entry, den_SkewSymmetricLinearOperator_lmi0_entry] using
    LinearOperator.sound_lmi0 x c fi fj L A hA hL

/-- **SymmetricLinearOperator**, LMI: for a self-adjoint `A` with `⟪L z − A z, A z − μ z⟫ ≥ 0`
(i.e. spectrum in `[μ, L]`) the generated matrix has a nonnegative quadratic form. -/
theorem SymmetricLinearOperator.sound_lmi0 (μ L : ℚ) (A : E →ₗ[ℝ] E)
    (hsym : ∀ u w, ⟪A u, w⟫ = ⟪u, A w⟫)
    (hspec : ∀ z, 0 ≤ ⟪(L : ℝ) • z - A z, A z - (μ : ℝ) • z⟫) :
    0 ≤ ∑ i, ∑ j, c i * c j *
        QForm.den (sv (x i) (A (x i)) (x j) (A (x j))) (fvOf fi fj) (Gen.SymmetricLinearOperator.lmi0_entry μ L) := by
  simp only [den_SymmetricLinearOperator_lmi0_entry, Canon.symLmi, sv, spectral_entry A hsym]
  exact spectral_gram_nonneg c x μ L A hspec

end linear

/-- **SmoothFunction** (L-smooth, possibly non-convex) -/
theorem SmoothFunction.sound (f : E → ℝ) (g : E → E) (xi xj : E) (L : ℚ) (hL : 0 < L)
    (hlo : ∀ x y, f y ≥ f x + ⟪g x, y - x⟫ - (L : ℝ) / 2 * ‖y - x‖ ^ 2)
    (hup : ∀ x y, f y ≤ f x + ⟪g x, y - x⟫ + (L : ℝ) / 2 * ‖y - x‖ ^ 2) :
    QForm.den (sv xi (g xi) xj (g xj)) (fvOf (f xi) (f xj)) (Gen.SmoothFunction.smoothness L) ≤ 0 := by
  rw [den_SmoothFunction_smoothness _ _ L (ne_of_gt hL)]
  rw [Canon.smooth, sub_nonpos, real_inner_self_eq_norm_sq, real_inner_self_eq_norm_sq]
  exact smooth_interp f g L (Rat.cast_pos.2 hL) hlo hup xi xj

#print axioms SymmetricLinearOperator.sound_lmi0
#print axioms LinearOperator.sound_lmi0
#print axioms SmoothFunction.sound
