import PepitModel.Partition

/-!
# Property C13: the lists that are rebuilt at every solve do not grow, and never lose what the user declared

`PartLists` (`Model/Partition`) is the pair (`list_of_constraints`, constraints generated by the latest call) of a
`BlockPartition`; `PartLists.step` is `add_constraint` / `add_partition_constraints` (the world model's
`addPartitionConstraints` keeps exactly `partKeep cons ortho`, the same definition).  For **every history** of user
constraints and solves in which generated constraints are new objects:

* `partition_after_solve`: right after a solve the list is *all user constraints declared so far, in declaration
  order, followed by the constraints generated by this solve* — nothing from an earlier generation survives and no
  user constraint is lost, wherever it was inserted between generations;
* `partition_no_growth`: the size after a solve is `#user + #generated now`, whatever the number of earlier solves.
-/

namespace Pepit.C13

/-- the user constraints declared by a history, in order -/
def usersOf : List PartOp → List Nat
  | [] => []
  | .addUser c :: rest => c :: usersOf rest
  | .solve _ :: rest => usersOf rest

/-- generated constraints are new objects: never one of the user's constraints (before or after), and a user
constraint added later is not one generated earlier -/
def FreshGen (users : List Nat) : List PartOp → Prop
  | [] => True
  | .addUser _ :: rest => FreshGen users rest
  | .solve gen :: rest => (∀ g ∈ gen, g ∉ users) ∧ FreshGen users rest

theorem usersOf_append (a b : List PartOp) : usersOf (a ++ b) = usersOf a ++ usersOf b := by
  induction a with
  | nil => rfl
  | cons op rest ih => cases op <;> simp [usersOf, ih]

theorem freshGen_append (U : List Nat) (a b : List PartOp) :
    FreshGen U (a ++ b) ↔ FreshGen U a ∧ FreshGen U b := by
  induction a with
  | nil => simp [FreshGen]
  | cons op rest ih => cases op <;> simp [FreshGen, ih, and_assoc]

theorem partKeep_append_self (u g : List Nat) (h : ∀ x ∈ g, x ∉ u) : partKeep (u ++ g) g = u := by
  have hu : u.filter (fun c => !g.contains c) = u :=
    List.filter_eq_self.mpr fun a ha => by simpa using fun hg => h a hg ha
  have hg : g.filter (fun c => !g.contains c) = [] :=
    List.filter_eq_nil_iff.mpr fun a ha => by simpa using ha
  rw [partKeep, List.filter_append, hu, hg, List.append_nil]

/-- one operation, on a state whose latest generation avoids `all`: what `partKeep` would keep grows by the
user constraint added, if any -/
theorem keep_step (all : List Nat) (s : PartLists) (op : PartOp) (ho : ∀ g ∈ s.ortho, g ∉ all)
    (hu : ∀ u ∈ partKeep s.cons s.ortho ++ usersOf [op], u ∈ all) (hf : FreshGen all [op]) :
    partKeep (s.step op).cons (s.step op).ortho = partKeep s.cons s.ortho ++ usersOf [op] ∧
      ∀ g ∈ (s.step op).ortho, g ∉ all := by
  cases op with
  | addUser c =>
    have hc : c ∉ s.ortho := fun h => ho c h (hu c (by simp [usersOf]))
    exact ⟨by simp [PartLists.step, usersOf, partKeep, List.filter_append, hc], ho⟩
  | solve gen =>
    refine ⟨?_, hf.1⟩
    simp only [PartLists.step, usersOf, List.append_nil]
    exact partKeep_append_self _ gen fun x hx h => hf.1 x hx (hu x (List.mem_append_left _ h))

/-- invariant of every history whose generated constraints avoid `all` and whose user constraints lie in
`all`: what `partKeep` would keep now is exactly the user constraints so far -/
theorem keep_run (all : List Nat) (ops : List PartOp) (s : PartLists) (ho : ∀ g ∈ s.ortho, g ∉ all)
    (hu : ∀ u ∈ partKeep s.cons s.ortho ++ usersOf ops, u ∈ all) (hf : FreshGen all ops) :
    partKeep (s.run ops).cons (s.run ops).ortho = partKeep s.cons s.ortho ++ usersOf ops := by
  induction ops generalizing s with
  | nil => simp [PartLists.run, usersOf]
  | cons op rest ih =>
    -- `s.run (op :: rest)` is `(s.step op).run rest` by definition: one `keep_step`, then the rest from there
    rw [← List.singleton_append, usersOf_append, ← List.append_assoc] at hu ⊢
    rw [← List.singleton_append, freshGen_append] at hf
    obtain ⟨hk, ho'⟩ := keep_step all s op ho (fun u h => hu u (List.mem_append_left _ h)) hf.1
    rw [← hk] at hu ⊢
    exact ih (s.step op) ho' hu hf.2

/-- **after any history, a solve leaves exactly: every user constraint declared so far, in order, then the
constraints it generated itself** -/
theorem partition_after_solve (ops : List PartOp) (gen : List Nat)
    (hf : FreshGen (usersOf ops) (ops ++ [.solve gen])) :
    (({} : PartLists).run (ops ++ [.solve gen])).cons = usersOf ops ++ gen := by
  have hk := keep_run (usersOf ops) ops {} (by simp) (by simp [partKeep]) ((freshGen_append _ _ _).mp hf).1
  rw [PartLists.run, List.foldl_append, List.foldl_cons, List.foldl_nil, ← PartLists.run, PartLists.step, hk]
  rfl

/-- **no growth**: the size of the list after the k-th solve does not depend on k -/
theorem partition_no_growth (ops : List PartOp) (gen : List Nat)
    (hf : FreshGen (usersOf ops) (ops ++ [.solve gen])) :
    (({} : PartLists).run (ops ++ [.solve gen])).cons.length = (usersOf ops).length + gen.length := by
  rw [partition_after_solve ops gen hf, List.length_append]

/-- non-vacuity, and the history of the seeded defect "delete the tail": solve, user constraint, solve, solve -/
example : (({} : PartLists).run [.solve [10, 11], .addUser 5, .solve [12, 13], .solve [14, 15]]).cons = [5, 14, 15] := by
  decide

example : FreshGen [5] [.solve [10, 11], .addUser 5, .solve [12, 13], .solve [14, 15]] := by
  simp [FreshGen]

end Pepit.C13

#print axioms Pepit.C13.partition_after_solve
#print axioms Pepit.C13.partition_no_growth
