import PepitModel.GenSteps
import PepitVerif.Math.AlgebraSem
import PepitVerif.Math.StepsSem
import PepitVerif.Math.GramExpand
import Mathlib.Tactic.Ring
import Mathlib.Tactic.FieldSimp
import Mathlib.Tactic.Module

/-!
# Property C08, regenerated layer: what every primitive step of the working tree does

`Gen.Steps.*` is regenerated on every run by translator T3 (`harness/translators/gen_steps.py`): every step of
`PEPit/primitive_steps`, every option, is *executed* on leaf inputs with symbolic `γ`, `ε`; the file records the
decomposition of every returned object, every triplet recorded on every function, every side constraint, and
the number of fresh leaves.  The theorems below say, for every value of the parameters and every interpretation
`v` of the leaf points in a real inner-product space and `φ` of the leaf expressions, that these regenerated
data are exactly the relation the step documents — the returned point, the recorded samples, the side constraints
and nothing else (`… = [ … ]` fixes the *number* of records, so a dropped or an additional record breaks the
statement just as a changed coefficient does).

Leaves are numbered by creation counter: inputs first, then the leaves the step creates, in creation order.
-/

open RealInnerProductSpace

variable {E : Type*} [NormedAddCommGroup E] [InnerProductSpace ℝ E]

namespace Pepit.C08Gen

/-- side constraints with their expression replaced by what it denotes -/
noncomputable def denCons (v : Nat → E) (φ : Nat → ℝ) (l : List (Nat × Bool × EDict)) : List (Nat × Bool × ℝ) :=
  l.map (fun c => (c.1, c.2.1, EDict.den v φ c.2.2))

/-- real-valued goals, with the ten commutations of the leaves `v 0 … v 4` listed by hand: unfold the literal dictionary,
expand every inner product into oriented inner products, compare as rational functions of the parameters.  The
`*_constraint` proofs below use the simp set `gram_expand` for this and do not call it. -/
macro "step_real" v:ident : tactic => `(tactic| (
  simp only [denCons, EDict.den, Dict.denM, List.map_cons, List.map_nil, List.sum_cons, List.sum_nil, keyVal,
    List.cons.injEq, Prod.mk.injEq, true_and, and_true, and_self, smul_eq_mul,
    inner_sub_left, inner_sub_right, inner_add_left, inner_add_right, real_inner_smul_left, real_inner_smul_right,
    real_inner_comm ($v 1) ($v 0), real_inner_comm ($v 2) ($v 0), real_inner_comm ($v 3) ($v 0), real_inner_comm ($v 4) ($v 0),
    real_inner_comm ($v 2) ($v 1), real_inner_comm ($v 3) ($v 1), real_inner_comm ($v 4) ($v 1),
    real_inner_comm ($v 3) ($v 2), real_inner_comm ($v 4) ($v 2), real_inner_comm ($v 4) ($v 3)]
  push_cast
  try field_simp
  try ring
  try simp only [and_self]))

theorem denCons_cons (v : Nat → E) (φ : Nat → ℝ) (c : Nat × Bool × EDict) (l : List (Nat × Bool × EDict)) :
    denCons v φ (c :: l) = (c.1, c.2.1, EDict.den v φ c.2.2) :: denCons v φ l := rfl

theorem denCons_nil (v : Nat → E) (φ : Nat → ℝ) : denCons v φ [] = [] := rfl

/- Every statement below about a returned point or gradient (`*_point`, `*_mirror`, `*_gradient`, `*_subgradient`) or about the
side constraints (`*_constraint`, `linesearch_*`) is proved in the two steps of `Math/ClassForms`: with the equations of
`PDict.den`, `EDict.den` and `denCons` on a literal, the simp set `gram_expand` writes both sides over the leaves `v i`,
`⟪v i, v j⟫`, `φ i`; then `module` (vectors) or `ring` (reals) compares the coefficients. -/
attribute [local gram_expand] denCons_cons denCons_nil PDict.den EDict.den Dict.denM_cons Dict.denM_nil keyVal smul_eq_mul

open Gen.Steps

variable (v : Nat → E) (φ : Nat → ℝ)

/-! ## `proximal_step(x0, f, γ)`: `x = x0 − γ·g`, `(x, g, fx)` recorded with `g`, `fx` fresh, nothing else -/

theorem proximal_point (γ : Coef) : PDict.den v (proximal.retP0 γ) = v 0 - ((γ : ℚ) : ℝ) • v 1 := by
  simp only [proximal.retP0, gram_expand]
  module

theorem proximal_records (γ : Coef) :
    proximal.trips γ = [(0, proximal.retP0 γ, proximal.retP1 γ, proximal.retE2 γ)] ∧
    proximal.retP1 γ = [(1, 1)] ∧ proximal.retE2 γ = [(.f 0, 1)] ∧ proximal.cons γ = [] ∧
    proximal.newP = 1 ∧ proximal.newE = 1 := ⟨rfl, rfl, rfl, rfl, rfl, rfl⟩

/-! ## `inexact_gradient_step(x0, f, γ, ε, notion)`: `x = x0 − γ·d`, `(x0, g, f0)` recorded (the oracle call),
`‖g − d‖² ≤ ε²` resp. `≤ ε²‖g‖²` -/

theorem inexgrad_abs_point (γ ε : Coef) : PDict.den v (inexgrad_abs.retP0 γ ε) = v 0 - ((γ : ℚ) : ℝ) • v 2 := by
  simp only [inexgrad_abs.retP0, gram_expand]
  module

theorem inexgrad_abs_constraint (γ ε : Coef) :
    denCons v φ (inexgrad_abs.cons γ ε) = [(0, false, ‖v 1 - v 2‖ ^ 2 - ((ε : ℚ) : ℝ) ^ 2)] := by
  simp only [inexgrad_abs.cons, gram_expand, List.cons.injEq, Prod.mk.injEq, true_and, and_true]
  ring

theorem inexgrad_abs_records (γ ε : Coef) :
    inexgrad_abs.trips γ ε = [(0, [(0, 1)], [(1, 1)], [(.f 0, 1)])] ∧
    inexgrad_abs.retP1 γ ε = [(2, 1)] ∧ inexgrad_abs.retE2 γ ε = [(.f 0, 1)] ∧
    inexgrad_abs.newP = 2 ∧ inexgrad_abs.newE = 1 := ⟨rfl, rfl, rfl, rfl, rfl⟩

theorem inexgrad_rel_point (γ ε : Coef) : PDict.den v (inexgrad_rel.retP0 γ ε) = v 0 - ((γ : ℚ) : ℝ) • v 2 := by
  simp only [inexgrad_rel.retP0, gram_expand]
  module

theorem inexgrad_rel_constraint (γ ε : Coef) :
    denCons v φ (inexgrad_rel.cons γ ε) =
      [(0, false, ‖v 1 - v 2‖ ^ 2 - ((ε : ℚ) : ℝ) ^ 2 * ‖v 1‖ ^ 2)] := by
  simp only [inexgrad_rel.cons, gram_expand, List.cons.injEq, Prod.mk.injEq, true_and, and_true]
  ring

theorem inexgrad_rel_records (γ ε : Coef) :
    inexgrad_rel.trips γ ε = [(0, [(0, 1)], [(1, 1)], [(.f 0, 1)])] ∧
    inexgrad_rel.retP1 γ ε = [(2, 1)] ∧ inexgrad_rel.retE2 γ ε = [(.f 0, 1)] ∧
    inexgrad_rel.newP = 2 ∧ inexgrad_rel.newE = 1 := ⟨rfl, rfl, rfl, rfl, rfl⟩

/-! ## `exact_linesearch_step(x0, f, directions)`: `x` fresh, `(x, g, fx)` recorded, `⟪x − x0, g⟫ = 0` and
`⟪d, g⟫ = 0` for every direction — equalities, one per direction, in the order given -/

theorem linesearch_two_directions :
    denCons v φ linesearch2.cons =
      [(0, true, ⟪v 3 - v 0, v 4⟫), (0, true, ⟪v 1, v 4⟫), (0, true, ⟪v 2, v 4⟫)] := by
  simp only [linesearch2.cons, gram_expand, List.cons.injEq, Prod.mk.injEq, true_and, and_true]
  refine ⟨?_, ?_, ?_⟩ <;> ring

theorem linesearch_no_direction : denCons v φ linesearch0.cons = [(0, true, ⟪v 1 - v 0, v 2⟫)] := by
  simp only [linesearch0.cons, gram_expand, List.cons.injEq, Prod.mk.injEq, true_and, and_true]
  ring

/-- thirty directions (more than there are letters): one orthogonality condition per direction, none dropped, none added,
in the order of the list -/
theorem linesearch_thirty_directions :
    linesearch30.cons = (0, true, [(EKey.ip 31 32, (1 : Coef)), (EKey.ip 0 32, -1)]) ::
      (List.range 30).map (fun i => (0, true, [(EKey.ip (i + 1) 32, (1 : Coef))])) ∧
    linesearch30.trips = [(0, [(31, 1)], [(32, 1)], [(.f 0, 1)])] ∧ linesearch30.newP = 2 ∧ linesearch30.newE = 1 :=
  ⟨by decide +kernel, rfl, rfl, rfl⟩

theorem linesearch_records :
    linesearch2.trips = [(0, [(3, 1)], [(4, 1)], [(.f 0, 1)])] ∧ linesearch2.retP0 = [(3, 1)] ∧
    linesearch2.retP1 = [(4, 1)] ∧ linesearch2.retE2 = [(.f 0, 1)] ∧ linesearch2.newP = 2 ∧ linesearch2.newE = 1 ∧
    linesearch0.trips = [(0, [(1, 1)], [(2, 1)], [(.f 0, 1)])] ∧ linesearch0.newP = 2 ∧ linesearch0.newE = 1 :=
  ⟨rfl, rfl, rfl, rfl, rfl, rfl, rfl, rfl, rfl⟩

/-! ## `linear_optimization_step(dir, ind)`: `x` fresh with `−dir` recorded as the (normal-cone) subgradient -/

theorem linopt_gradient : PDict.den v linopt.retP1 = - v 0 := by
  simp only [linopt.retP1, gram_expand]
  module

theorem linopt_records :
    linopt.trips = [(0, linopt.retP0, linopt.retP1, linopt.retE2)] ∧ linopt.retP0 = [(1, 1)] ∧
    linopt.retE2 = [(.f 0, 1)] ∧ linopt.cons = [] ∧ linopt.newP = 1 ∧ linopt.newE = 1 := ⟨rfl, rfl, rfl, rfl, rfl, rfl⟩

/-! ## Bregman steps: `∇h(x) = ∇h(x0) − γ·g` with `x` fresh -/

theorem breggrad_mirror (γ : Coef) : PDict.den v (breggrad.retP1 γ) = v 1 - ((γ : ℚ) : ℝ) • v 0 := by
  simp only [breggrad.retP1, gram_expand]
  module

theorem breggrad_records (γ : Coef) :
    breggrad.trips γ = [(0, breggrad.retP0 γ, breggrad.retP1 γ, breggrad.retE2 γ)] ∧ breggrad.retP0 γ = [(2, 1)] ∧
    breggrad.retE2 γ = [(.f 0, 1)] ∧ breggrad.cons γ = [] ∧ breggrad.newP = 1 ∧ breggrad.newE = 1 :=
  ⟨rfl, rfl, rfl, rfl, rfl, rfl⟩

theorem bregprox_mirror (γ : Coef) : PDict.den v (bregprox.retP1 γ) = v 0 - ((γ : ℚ) : ℝ) • v 2 := by
  simp only [bregprox.retP1, gram_expand]
  module

/-- the same fresh `x` is recorded on the mirror map (function 0) with `∇h(x)` and on the minimised function
(function 1) with the fresh subgradient `g` used in `∇h(x)` -/
theorem bregprox_records (γ : Coef) :
    bregprox.trips γ = [(0, bregprox.retP0 γ, bregprox.retP1 γ, bregprox.retE2 γ),
                        (1, bregprox.retP0 γ, bregprox.retP3 γ, bregprox.retE4 γ)] ∧
    bregprox.retP0 γ = [(1, 1)] ∧ bregprox.retP3 γ = [(2, 1)] ∧ bregprox.retE2 γ = [(.f 1, 1)] ∧
    bregprox.retE4 γ = [(.f 0, 1)] ∧ bregprox.cons γ = [] ∧ bregprox.newP = 2 ∧ bregprox.newE = 2 :=
  ⟨rfl, rfl, rfl, rfl, rfl, rfl, rfl, rfl⟩

/-! ## `epsilon_subgradient_step(x0, f, γ)`: `x = x0 − γ·g0`, `g0 ∈ ∂f(y)` recorded at a fresh `y`,
`f(x0) + (⟪g0, y⟫ − f(y)) − ⟪g0, x0⟫ ≤ ε` with `ε` a fresh leaf expression -/

theorem epssub_point (γ : Coef) : PDict.den v (epssub.retP0 γ) = v 0 - ((γ : ℚ) : ℝ) • v 1 := by
  simp only [epssub.retP0, gram_expand]
  module

theorem epssub_constraint (γ : Coef) :
    denCons v φ (epssub.cons γ) = [(0, false, φ 0 + (⟪v 1, v 3⟫ - φ 2) - ⟪v 1, v 0⟫ - φ 1)] := by
  simp only [epssub.cons, gram_expand, List.cons.injEq, Prod.mk.injEq, true_and, and_true]
  ring

theorem epssub_records (γ : Coef) :
    epssub.trips γ = [(0, [(0, 1)], [(2, 1)], [(.f 0, 1)]), (0, [(3, 1)], [(1, 1)], [(.f 2, 1)])] ∧
    epssub.retP1 γ = [(1, 1)] ∧ epssub.retE2 γ = [(.f 0, 1)] ∧ epssub.retE3 γ = [(.f 1, 1)] ∧
    epssub.newP = 3 ∧ epssub.newE = 3 := ⟨rfl, rfl, rfl, rfl, rfl, rfl⟩

/-! ## `inexact_proximal_step(x0, f, γ, opt)` -/

/-- PD_gapI: `‖x − x0 + γ v‖²/2 + γ (f(x) − f(w) − ⟪v, x − w⟫) ≤ ε` with `x`, `g`, `w`, `v`, `ε` fresh;
`(w, v, fw)` and `(x, g, fx)` recorded -/
theorem inexprox1_constraint (γ : Coef) :
    denCons v φ (inexprox1.cons γ) =
      [(0, false, ‖v 3 - v 0 + ((γ : ℚ) : ℝ) • v 1‖ ^ 2 / 2 +
        ((γ : ℚ) : ℝ) * (φ 1 - φ 0 - ⟪v 1, v 3 - v 2⟫) - φ 2)] := by
  simp only [inexprox1.cons, gram_expand, List.cons.injEq, Prod.mk.injEq, true_and, and_true]
  ring

theorem inexprox1_records (γ : Coef) :
    inexprox1.trips γ = [(0, inexprox1.retP3 γ, inexprox1.retP4 γ, inexprox1.retE5 γ),
                         (0, inexprox1.retP0 γ, inexprox1.retP1 γ, inexprox1.retE2 γ)] ∧
    inexprox1.retP0 γ = [(3, 1)] ∧ inexprox1.retP1 γ = [(4, 1)] ∧ inexprox1.retE2 γ = [(.f 1, 1)] ∧
    inexprox1.retP3 γ = [(2, 1)] ∧ inexprox1.retP4 γ = [(1, 1)] ∧ inexprox1.retE5 γ = [(.f 0, 1)] ∧
    inexprox1.retE6 γ = [(.f 2, 1)] ∧ inexprox1.newP = 4 ∧ inexprox1.newE = 3 :=
  ⟨rfl, rfl, rfl, rfl, rfl, rfl, rfl, rfl, rfl, rfl⟩

/-- PD_gapII: `x = x0 − γ g + e`, `‖e‖²/2 ≤ ε`; `(x, g, fx)` recorded; `w, v, fw` are `x, g, fx` again -/
theorem inexprox2_point (γ : Coef) :
    PDict.den v (inexprox2.retP0 γ) = v 0 - ((γ : ℚ) : ℝ) • v 2 + v 1 := by
  simp only [inexprox2.retP0, gram_expand]
  module

theorem inexprox2_constraint (γ : Coef) :
    denCons v φ (inexprox2.cons γ) = [(0, false, ‖v 1‖ ^ 2 / 2 - φ 1)] := by
  simp only [inexprox2.cons, gram_expand, List.cons.injEq, Prod.mk.injEq, true_and, and_true]
  ring

theorem inexprox2_records (γ : Coef) :
    inexprox2.trips γ = [(0, inexprox2.retP0 γ, inexprox2.retP1 γ, inexprox2.retE2 γ)] ∧
    inexprox2.retP1 γ = [(2, 1)] ∧ inexprox2.retE2 γ = [(.f 0, 1)] ∧
    inexprox2.retP3 γ = inexprox2.retP0 γ ∧ inexprox2.retP4 γ = inexprox2.retP1 γ ∧ inexprox2.retE5 γ = inexprox2.retE2 γ ∧
    inexprox2.retE6 γ = [(.f 1, 1)] ∧ inexprox2.newP = 2 ∧ inexprox2.newE = 2 :=
  ⟨rfl, rfl, rfl, rfl, rfl, rfl, rfl, rfl, rfl⟩

/-- PD_gapIII: `v = (x0 − x)/γ` recorded as the subgradient at the fresh `w`,
`γ (f(x) − f(w) − ⟪v, x − w⟫) ≤ ε` (the step divides by `γ`: the real code raises at `γ = 0`) -/
theorem inexprox3_subgradient (γ : Coef) :
    PDict.den v (inexprox3.retP4 γ) = (1 / ((γ : ℚ) : ℝ)) • (v 0 - v 1) := by
  simp only [inexprox3.retP4, gram_expand]
  module

theorem inexprox3_constraint (γ : Coef) (hγ : γ ≠ 0) :
    denCons v φ (inexprox3.cons γ) =
      [(0, false, ((γ : ℚ) : ℝ) * (φ 1 - φ 0 - ⟪(1 / ((γ : ℚ) : ℝ)) • (v 0 - v 1), v 1 - v 3⟫) - φ 2)] := by
  simp only [inexprox3.cons, gram_expand, List.cons.injEq, Prod.mk.injEq, true_and, and_true]
  ring

theorem inexprox3_records (γ : Coef) :
    inexprox3.trips γ = [(0, inexprox3.retP0 γ, inexprox3.retP1 γ, inexprox3.retE2 γ),
                         (0, inexprox3.retP3 γ, inexprox3.retP4 γ, inexprox3.retE5 γ)] ∧
    inexprox3.retP0 γ = [(1, 1)] ∧ inexprox3.retP1 γ = [(2, 1)] ∧ inexprox3.retE2 γ = [(.f 1, 1)] ∧
    inexprox3.retP3 γ = [(3, 1)] ∧ inexprox3.retE5 γ = [(.f 0, 1)] ∧ inexprox3.retE6 γ = [(.f 2, 1)] ∧
    inexprox3.newP = 3 ∧ inexprox3.newE = 3 := ⟨rfl, rfl, rfl, rfl, rfl, rfl, rfl, rfl, rfl⟩

/-! ## the hand-written step model (`Model/Steps`, namespace `StepForm`, the formulas the world model executes and the
steps stream compares with the code) denotes the same objects as the regenerated steps, on the same leaves

Each side is rewritten to the documented relation: the regenerated one by its `*_point` / `*_constraint` theorem, the model's by
the `den_*` lemma of its formula (`Math/StepsSem`), whose side conditions are about one-leaf dictionaries
(`Dict.nodup_keys_single`). -/

open Pepit.StepForm in
theorem model_proximal_agrees (γ : Coef) :
    PDict.den v (gradStep [(0, 1)] γ [(1, 1)]) = PDict.den v (proximal.retP0 γ) := by
  simp only [proximal_point, den_gradStep, Dict.nodup_keys_single, PDict.den_single]

open Pepit.StepForm in
theorem model_inexgrad_agrees (γ ε : Coef) (rel : Bool) :
    PDict.den v (gradStep [(0, 1)] γ [(2, 1)]) = PDict.den v (inexgrad_abs.retP0 γ ε) ∧
    denCons v φ [(0, false, inexactGradient [(1, 1)] [(2, 1)] ε rel)] =
      denCons v φ (if rel then inexgrad_rel.cons γ ε else inexgrad_abs.cons γ ε) := by
  cases rel <;>
    simp only [inexgrad_abs_point, inexgrad_abs_constraint, inexgrad_rel_constraint, denCons_cons, denCons_nil, den_gradStep,
      den_inexactGradient, Dict.nodup_keys_single, PDict.den_single, if_true, Bool.false_eq_true, if_false, mul_one, and_self]

open Pepit.StepForm in
theorem model_linesearch_agrees :
    denCons v φ [(0, true, linesearchMain [(3, 1)] [(0, 1)] [(4, 1)]), (0, true, linesearchDir [(1, 1)] [(4, 1)]),
                 (0, true, linesearchDir [(2, 1)] [(4, 1)])] = denCons v φ linesearch2.cons := by
  simp only [linesearch_two_directions, denCons_cons, denCons_nil, den_linesearchMain, den_linesearchDir,
    Dict.nodup_keys_single, PDict.den_single]

open Pepit.StepForm in
theorem model_epssub_agrees (γ : Coef) :
    PDict.den v (gradStep [(0, 1)] γ [(1, 1)]) = PDict.den v (epssub.retP0 γ) ∧
    denCons v φ [(0, false, EDict.sub (epsSubgradient [(.f 0, 1)] [(1, 1)] [(3, 1)] [(.f 2, 1)] [(0, 1)]) [(.f 1, 1)])] =
      denCons v φ (epssub.cons γ) := by
  simp only [epssub_point, epssub_constraint, denCons_cons, denCons_nil, den_gradStep, EDict.den_sub, den_epsSubgradient,
    Dict.nodup_keys_single, PDict.den_single, EDict.den_single, and_self]

open Pepit.StepForm in
theorem model_inexprox_agrees (γ : Coef) :
    denCons v φ [(0, false, EDict.sub (gapI [(3, 1)] [(0, 1)] γ [(1, 1)] [(2, 1)] [(.f 1, 1)] [(.f 0, 1)]) [(.f 2, 1)])] =
      denCons v φ (inexprox1.cons γ) ∧
    PDict.den v (gapIIx [(0, 1)] γ [(2, 1)] [(1, 1)]) = PDict.den v (inexprox2.retP0 γ) ∧
    denCons v φ [(0, false, EDict.sub (gapII [(1, 1)]) [(.f 1, 1)])] = denCons v φ (inexprox2.cons γ) ∧
    PDict.den v (gapIIIv [(0, 1)] [(1, 1)] γ) = PDict.den v (inexprox3.retP4 γ) := by
  simp only [inexprox1_constraint, inexprox2_point, inexprox2_constraint, inexprox3_subgradient, denCons_cons, denCons_nil,
    EDict.den_sub, den_gapI, den_gapIIx, den_gapII, den_gapIIIv, Dict.nodup_keys_single, PDict.den_single, EDict.den_single,
    and_self]

end Pepit.C08Gen
