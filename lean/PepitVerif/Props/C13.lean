import PepitVerif.Math.ListAux
import PepitModel.Eval

/-!
# Property C13 (model level): values after solving again
-/

namespace Pepit

/-- **derived objects report the latest solve**: a derived expression evaluates, after any history of
solves and evaluations (of itself or of anything else), to its value at the *latest* solution; before the
`fix:` commit on `eval()` this held only for objects that had never been evaluated (stale caches) -/
theorem expr_latest (w : World) (s : EvalSt) (h : Nat) (e : EObj) (sol : Solution)
    (he : w.exs[h]? = some e) (hleaf : e.leaf = Option.none)
    (hlast : s.last = some sol) (v : Coef) (hv : evalGFRat sol e.d = some v) :
    evalExpr w s h = .ok (v, s) := by
  unfold evalExpr
  simp only [he, hleaf, Option.isSome_none, Bool.false_eq_true, if_false, hlast, hv]

/-- evaluating never changes the evaluation state: nothing is cached that a later solve could make stale -/
theorem eval_pure (w : World) (s : EvalSt) (h : Nat) (v : Coef) (s' : EvalSt)
    (hev : evalExpr w s h = .ok (v, s')) : s' = s := by
  -- every branch of the evaluator is an error or `.ok (_, s)`
  unfold evalExpr at hev
  split at hev
  · cases hev
  · split at hev
    · -- a leaf expression: the stored value, if any
      split at hev
      · cases hev; rfl
      · cases hev
    · split at hev
      · -- no solve yet: a constant expression evaluates
        split at hev
        · cases hev; rfl
        · cases hev
      · -- the latest solution
        split at hev
        · cases hev; rfl
        · cases hev

/-! ### the two-solve history that used to expose the stale cache -/

/-- one leaf point `x`, the derived expression `x * x` (handle 0) -/
def staleWorld : World :=
  { pts := #[{ leaf := some 0, d := [(0, 1)] }],
    exs := #[{ leaf := Option.none, d := [(EKey.ip 0 0, 1)] }],
    nP := 1 }

def sol1 : Solution := { G := [[1]], F := [], nP := 1, nE := 0 }
def sol2 : Solution := { G := [[4]], F := [], nP := 1, nE := 0 }

/-- values of `x * x` read (i) after the first solve, (ii) by the same held object after the
second solve, (iii) the value at the second solution -/
def staleHistory : Option (Coef × Coef × Coef) :=
  match evalExpr staleWorld (({} : EvalSt).afterSolve staleWorld sol1) 0 with
  | .ok (v1, s1) =>
    match evalExpr staleWorld (s1.afterSolve staleWorld sol2) 0 with
    | .ok (v2, _) => (evalGFRat sol2 [(EKey.ip 0 0, 1)]).map (fun v3 => (v1, v2, v3))
    | .error _ => Option.none
  | .error _ => Option.none

/-- the held object now answers 4 after the second solve (it answered 1 before the fix) -/
theorem resolve_history_latest : staleHistory = some (1, 4, 4) := by decide +kernel

/-- **leaves always report the latest solve**: after `afterSolve`, the value stored for a leaf
expression is the entry of the *new* `F`, whatever was stored before -/
theorem leaf_latest (w : World) (s : EvalSt) (sol : Solution) (h c : Nat) (e : EObj)
    (he : w.exs[h]? = some e) (hleaf : e.leaf = some c) :
    ((s.afterSolve w sol).exVal.lookup h) = some (sol.F.getD c 0) := by
  have hlv : leafValue w sol h = some (sol.F.getD c 0) := by simp [leafValue, he, hleaf]
  have hlt : h < w.exs.size := (Array.getElem?_eq_some_iff.mp he).1
  simp only [EvalSt.afterSolve, leafVals, List.lookup_append, List.lookup_filterMap_graph, List.mem_range, hlt,
    if_true, hlv, Option.some_or]

end Pepit

#print axioms Pepit.leaf_latest
#print axioms Pepit.expr_latest
#print axioms Pepit.resolve_history_latest
