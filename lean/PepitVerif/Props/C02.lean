import PepitVerif.Math.MatricesSem
import PepitModel.Eval
import Mathlib.Data.Matrix.Basic

/-!
# Property C02: the primal output is one consistent instance

* `evalGF_gram`: what the SDP sees of an expression at the Gram matrix of an actual family of
  vectors is the denotation of the expression at those vectors — so the values of all derived
  objects are the same linear/bilinear combinations of the leaf values (the homomorphism theorems
  of C06 apply verbatim to `evalGF`, which is `Dict.denM` at another valuation).
* `evalGFRat_sound`: the executable evaluation of the model (`Model/Eval`, the one compared with
  the implementation's `eval()` by the correspondence streams) computes `evalGF` at the injected
  solution whenever it returns a value, and refuses (`none`, i.e. `ValueError`) exactly when the
  expression mentions a leaf created after the solve.
* `objective_is_min_metric`: in "maximise t subject to t ≤ m_k", the optimum is the smallest metric.
-/

open RealInnerProductSpace

variable {E : Type*} [NormedAddCommGroup E] [InnerProductSpace ℝ E]

namespace Pepit.C02

theorem keyValGF_gram (v : Nat → E) (φ : Nat → ℝ) :
    keyValGF (fun i j => ⟪v i, v j⟫) φ = keyVal v φ := by
  funext k; cases k <;> rfl

/-- **Gram bridge**: evaluating at the Gram matrix of the leaf vectors is evaluating at the vectors -/
theorem evalGF_gram (v : Nat → E) (φ : Nat → ℝ) (e : EDict) :
    EDict.evalGF (fun i j => ⟪v i, v j⟫) φ e = EDict.den v φ e := by
  unfold EDict.evalGF EDict.den; rw [keyValGF_gram]

/-- the real-valued reading of an injected rational solution -/
noncomputable def solG (sol : Solution) : Nat → Nat → ℝ := fun i j => (((sol.G.getD i []).getD j 0 : ℚ) : ℝ)
noncomputable def solF (sol : Solution) : Nat → ℝ := fun c => ((sol.F.getD c 0 : ℚ) : ℝ)

/-- **the executable evaluation is `evalGF` at the injected solution** -/
theorem evalGFRat_sound (sol : Solution) (d : EDict) (r : Coef) (h : evalGFRat sol d = some r) :
    ((r : ℚ) : ℝ) = EDict.evalGF (solG sol) (solF sol) d := by
  unfold evalGFRat at h
  induction d using List.reverseRecOn generalizing r with
  | nil => cases h; simp [EDict.evalGF]
  | append_singleton init kc ih =>
    -- the loop came through `init` with some value `a`, to which the last item adds its term
    rw [List.foldl_concat] at h
    obtain ⟨a, ha, hstep⟩ := Option.bind_eq_some_iff.mp h
    rw [EDict.evalGF, Dict.denM_append, ← EDict.evalGF, ← ih a ha]
    obtain ⟨k, c⟩ := kc
    cases k with
    | f i =>
      dsimp only at hstep
      split at hstep
      · cases hstep; simp [keyValGF, solF]
      · cases hstep
    | ip i j =>
      obtain ⟨g, hg, hr⟩ := Option.bind_eq_some_iff.mp hstep
      unfold lookupG at hg
      split at hg
      · cases hg; cases hr; simp [keyValGF, solG]
      · cases hg
    | one => cases hstep; simp [keyValGF]

/-- **objective = smallest metric**: `t` is feasible for `t ≤ m_k (∀k)` iff `t ≤ min`, hence the
maximal feasible `t` is the minimum of the metrics (`m0 :: ms` non-empty list of metric values) -/
theorem objective_is_min_metric (m0 : ℝ) (ms : List ℝ) :
    IsGreatest {t : ℝ | ∀ m ∈ m0 :: ms, t ≤ m} (ms.foldl min m0) := by
  -- `ms.foldl min m0` is how core computes the minimum of `m0 :: ms`
  have key : ∀ t, t ≤ ms.foldl min m0 ↔ ∀ m ∈ m0 :: ms, t ≤ m := fun t => List.le_min?_iff List.min?_cons'
  exact ⟨(key _).mp le_rfl, fun t ht => (key t).mpr ht⟩

/-- non-vacuity of the executable evaluation: `2·⟨p0,p1⟩ + 3·f0 − 1` at `G = [[1,2],[2,5]]`, `F = [4]` -/
example : evalGFRat ⟨[[1, 2], [2, 5]], [4], 2, 1⟩ [(.ip 0 1, 2), (.f 0, 3), (.one, -1)] = some 15 := by
  decide +kernel
/-- … and an expression mentioning a leaf created after the solve is refused -/
example : evalGFRat ⟨[[1, 2], [2, 5]], [4], 2, 1⟩ [(.ip 0 2, 1)] = none := by decide +kernel

end Pepit.C02

#print axioms Pepit.C02.evalGF_gram
#print axioms Pepit.C02.evalGFRat_sound
#print axioms Pepit.C02.objective_is_min_metric

namespace Pepit.C02
open Matrix

variable {n : Type*} [Fintype n] [DecidableEq n]

/-- **Gram factor**: `_eval_points_and_function_values` takes `G = V diag(λ) Vᵀ` (`numpy.linalg.eigh`),
clips `λ⁺ = max(λ, 0)`, forms `A = diag(√λ⁺) Vᵀ` and keeps the `R` factor of `A = Q R`
(`numpy.linalg.qr`, `QᵀQ = 1`).  Column `i` of `R` is the value of leaf point `i`.  Then the matrix of
inner products of the evaluated leaf points, `RᵀR`, is `V diag(λ⁺) Vᵀ` — the projection of the solver's
Gram matrix onto the PSD cone (and `G` itself when `λ ≥ 0`).  The contracts of `eigh` / `qr` are the
hypotheses. -/
theorem gram_factor (V Q R : Matrix n n ℝ) (lamp s : n → ℝ)
    (hs : ∀ i, s i * s i = lamp i)                       -- s = √λ⁺
    (hQ : Qᵀ * Q = 1) (hQR : Q * R = diagonal s * Vᵀ) :
    Rᵀ * R = V * diagonal lamp * Vᵀ := by
  have h1 : Rᵀ * R = (Q * R)ᵀ * (Q * R) := by
    rw [transpose_mul, Matrix.mul_assoc, ← Matrix.mul_assoc Qᵀ Q R, hQ, Matrix.one_mul]
  have hd : diagonal s * diagonal s = diagonal lamp := by
    rw [diagonal_mul_diagonal]; congr 1; funext i; exact hs i
  rw [h1, hQR, transpose_mul, transpose_transpose, diagonal_transpose, Matrix.mul_assoc,
    ← Matrix.mul_assoc (diagonal s) (diagonal s) Vᵀ, hd, Matrix.mul_assoc]

/-- entry form: `⟪value of leaf i, value of leaf j⟫ = (V diag(λ⁺) Vᵀ) i j` -/
theorem leaf_inner_products (V Q R : Matrix n n ℝ) (lamp s : n → ℝ) (hs : ∀ i, s i * s i = lamp i)
    (hQ : Qᵀ * Q = 1) (hQR : Q * R = diagonal s * Vᵀ) (i j : n) :
    (∑ k, R k i * R k j) = (V * diagonal lamp * Vᵀ) i j := by
  rw [← gram_factor V Q R lamp s hs hQ hQR]
  simp [Matrix.mul_apply, Matrix.transpose_apply]

/-- when the solver's Gram matrix is already PSD (`λ ≥ 0`, so `λ⁺ = λ`) the leaf points reproduce `G` itself -/
theorem leaf_inner_products_psd (G V Q R : Matrix n n ℝ) (lam s : n → ℝ) (hs : ∀ i, s i * s i = lam i)
    (hG : G = V * diagonal lam * Vᵀ) (hQ : Qᵀ * Q = 1) (hQR : Q * R = diagonal s * Vᵀ) :
    Rᵀ * R = G := by
  rw [hG]; exact gram_factor V Q R lam s hs hQ hQR

end Pepit.C02

#print axioms Pepit.C02.gram_factor
