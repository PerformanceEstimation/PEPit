import PepitVerif.Math.AFunSem
import PepitVerif.Math.AFunSpec
import PepitVerif.Math.AddPointSpec
import PepitVerif.Math.AlgebraSem
import PepitVerif.Math.Certificate
import PepitVerif.Math.ClassForms
import PepitVerif.Math.Convex
import PepitVerif.Math.CvxSem
import PepitVerif.Math.DictEqv
import PepitVerif.Math.DistributeSpec
import PepitVerif.Math.GramAttr
import PepitVerif.Math.GramExpand
import PepitVerif.Math.Interp
import PepitVerif.Math.ListAux
import PepitVerif.Math.MatricesSem
import PepitVerif.Math.OneValue
import PepitVerif.Math.OracleFresh
import PepitVerif.Math.OracleInv
import PepitVerif.Math.PairsSem
import PepitVerif.Math.PartitionSem
import PepitVerif.Math.RemainderSem
import PepitVerif.Math.SparseSem
import PepitVerif.Math.StepRates
import PepitVerif.Math.StepsSem
import PepitVerif.Math.WellFormed
import PepitVerif.Props.C01
import PepitVerif.Props.C01Check
import PepitVerif.Props.C02
import PepitVerif.Props.C03
import PepitVerif.Props.C03LMI
import PepitVerif.Props.C03Quad
import PepitVerif.Props.C04
import PepitVerif.Props.C04Suff
import PepitVerif.Props.C05
import PepitVerif.Props.C06
import PepitVerif.Props.C07
import PepitVerif.Props.C08
import PepitVerif.Props.C08Gen
import PepitVerif.Props.C09
import PepitVerif.Props.C09Methods
import PepitVerif.Props.C10
import PepitVerif.Props.C11
import PepitVerif.Props.C12
import PepitVerif.Props.C13
import PepitVerif.Props.C13Hist
import PepitVerif.Props.C14
import PepitVerif.Props.C15
import PepitVerif.Props.C16
import PepitVerif.Props.C16Gen
import PepitVerif.Props.C17
